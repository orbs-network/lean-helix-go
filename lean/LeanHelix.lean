import LeanHelix.Lemmas.TermCalls
import LeanHelix.Lemmas.TermValidators
import LeanHelix.Lemmas.TermHandlers
import LeanHelix.Lemmas.TermActs
import LeanHelix.Lemmas.TermAccept
import LeanHelix.Lemmas.Weights
import LeanHelix.Lemmas.List
import LeanHelix.Lemmas.Cache
import LeanHelix.Model.Basic
import LeanHelix.Model.BlockProof
import LeanHelix.Model.Contexts
import LeanHelix.Model.Filter
import LeanHelix.Model.Leader
import LeanHelix.Model.Msg
import LeanHelix.Model.Quorum
import LeanHelix.Model.State
import LeanHelix.Model.Term
import LeanHelix.Model.Timeout
import LeanHelix.Model.Trigger
import LeanHelix.Model.Worker
import LeanHelix.Props.C02
import LeanHelix.Props.C03
import LeanHelix.Props.C04
import LeanHelix.Props.C05
import LeanHelix.Props.C06
import LeanHelix.Props.C07
import LeanHelix.Props.C08
import LeanHelix.Props.C09
import LeanHelix.Props.C10
import LeanHelix.Props.C10Leader
import LeanHelix.Props.C11
import LeanHelix.Props.C11NewView
import LeanHelix.Props.C12
import LeanHelix.Props.C13State
import LeanHelix.Props.C15Registry
import LeanHelix.Props.C14
import LeanHelix.Props.C16
import LeanHelix.Props.C17
import LeanHelix.Props.C18
import LeanHelix.Props.C19
import LeanHelix.Props.C19Trigger
import LeanHelix.Spec.Safety
import LeanHelix.Lemmas.TermClean
import LeanHelix.Props.C08Worker
import LeanHelix.Props.WorkerInvariants
import LeanHelix.Props.C17Once
import LeanHelix.Props.C13Worker
import LeanHelix.Props.C13Commit
import LeanHelix.Lemmas.TermOwn
import LeanHelix.Lemmas.TermViews
import LeanHelix.Props.C15Term
import LeanHelix.Props.C01
import LeanHelix.Props.C20
import LeanHelix.Model.Wire
import LeanHelix.Lemmas.TermRuns
import LeanHelix.Props.C01Local
import LeanHelix.Net.Adm
import LeanHelix.Net.Certs
import LeanHelix.Net.Model
import LeanHelix.Net.Blocks
import LeanHelix.Net.Reach
import LeanHelix.Net.Sim
import LeanHelix.Net.Sent
import LeanHelix.Props.C01Net
import LeanHelix.Props.C04Net
import LeanHelix.Props.C10Once
import LeanHelix.Props.C17Deliver
import LeanHelix.Props.C11Net
import LeanHelix.Props.C03Net
import LeanHelix.Props.C10Net
import LeanHelix.Props.C09Net
import LeanHelix.Props.C07Net
import LeanHelix.Props.C13Net
import LeanHelix.Props.C05Accept
import LeanHelix.Props.C05Net
import LeanHelix.Lemmas.WorkerActs
import LeanHelix.Props.C13Order
import LeanHelix.Props.C04Prov
import LeanHelix.Props.C05Elect
import LeanHelix.Lemmas.TermReg
import LeanHelix.Props.C15Net
import LeanHelix.Props.C15Worker
import LeanHelix.Props.C10Leader2
