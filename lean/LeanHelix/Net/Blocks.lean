import LeanHelix.Net.Model
/-!
# The network model, part 4: every atomic block of a correct node extends a valid global history

`Core` ties one correct node's state to its own statements `T` and to the global history `H`.
`blk_net`: an atomic block (`Lemmas/TermRuns.lean`) of the handling of an admissible, filtered event
keeps `Core` and extends a `Spec.Valid` history by a `Spec.Justified` statement — the node-local
part is `C01Local.blk_inv`, the certificate part comes from `Net/Certs.lean`.
-/
namespace LeanHelix.Net
open LeanHelix LeanHelix.Msg LeanHelix.Term LeanHelix.Spec
open LeanHelix.C01Local (GInv LocalJ LocalValid lift)

variable (C : NetCfg)

structure Core (H : List Ev) (i : Nat) (n : Node) (T : List LEv) : Prop where
  cfg : n.cfg = C.cfg i
  ginv : GInv T n
  sees : H.filter (mine i) = T.map (lift i)
  adm : StoreAdm C H n
  vcb : ∀ m ∈ n.store.vcs, m.block.isSome = m.c.header.proof.isSome
  /-- a node logs its own vote unchecked (`C11.VCsOK`: checked, or own); what such a vote carries is kept here -/
  ownvc : ∀ m ∈ n.store.vcs, m.c.sender = mySig n.cfg → m.c.header.mtype = tVC ∧
      ∀ p, m.c.header.proof = some p → p.pRef.hash = p.ppRef.hash ∧ p.ppRef.view < m.c.header.view
        ∧ LEv.com p.ppRef.view p.ppRef.hash ∈ T
  /-- gives `vcb` for the member's own vote, whose block is that of the proposal it is prepared on -/
  prepBlock : ∀ pv, n.prepared = some pv → ∃ ppm, n.store.getPP n.cfg.height pv = some ppm ∧ ppm.block.isSome = true

variable {C}

theorem localJ_of_valid_cons {T : List LEv} {x : LEv} (h : LocalValid (x :: T)) : LocalJ T x := by
  cases h with
  | cons _ hj => exact hj

theorem sees_append {i : Nat} {H : List Ev} {T : List LEv} (hs : H.filter (mine i) = T.map (lift i)) (g : List LEv) :
    ((g.map (lift i)).reverse ++ H).filter (mine i) = (g.reverse ++ T).map (lift i) := by
  rw [List.filter_append, List.map_append, hs, List.map_reverse, List.filter_eq_self.mpr]
  intro x hx
  obtain ⟨y, _, rfl⟩ := List.mem_map.mp (List.mem_reverse.mp hx)
  exact mine_lift i y

theorem sees_cons_other {i j : Nat} (hij : i ≠ j) {H : List Ev} {T : List LEv} (hs : H.filter (mine j) = T.map (lift j)) (x : LEv) :
    (lift i x :: H).filter (mine j) = T.map (lift j) := by
  rw [List.filter_cons, mine_lift_ne hij]
  simpa using hs

theorem apply_vcs_of_not_vc (s : Store) (op : StoreOp) (h : ∀ m, op ≠ .vc m) : (s.apply op).vcs = s.vcs := by
  cases op with
  | vc m => exact absurd rfl (h m)
  | pp m => exact storePP_vcs s m
  | commit m => exact storeCommit_vcs s m
  | prepare m => exact storePrepare_vcs s m

theorem mySig_ok (c : Cfg) : (mySig c).ok = true := rfl

theorem admRef_own_acc {H : List Ev} {i : Nat} (t v hash : Nat) (ht : t ≠ tC) (hin : Ev.acc i v hash ∈ H) :
    AdmRef C H ⟨t, C.inst, C.height, v, hash⟩ (mySig (C.cfg i)) :=
  .of_acc ht hin

theorem commitHash_getCommits (s : Store) (h v hash : Nat) (hne : s.getCommits h v hash ≠ []) :
    commitHash (s.getCommits h v hash) = hash := by
  cases hl : s.getCommits h v hash with
  | nil => exact absurd hl hne
  | cons c rest => exact (mem_getCommits.mp (hl ▸ List.mem_cons_self ..)).2.2.2

theorem quorum_mem {α : Type} {c : Cfg} {l : List α} {f : α → Nat}
    (hq : isQuorum c (l.map f) = true) : ∃ m, m ∈ l := List.exists_mem_of_ne_nil l (ne_nil_of_quorum hq)

theorem commitHash_of_quorum {a : Node} {h v hash : Nat}
    (hq : isQuorum a.cfg ((a.store.getCommits h v hash).map (·.sender.id)) = true) :
    commitHash (a.store.getCommits h v hash) = hash :=
  commitHash_getCommits _ _ _ _ (ne_nil_of_quorum hq)

theorem gate_vc {c : Cfg} {e : Event} {m : VCMsg} (he : evOp e = some (.vc m)) (hg : Gate c e) :
    m.c.sender.id ≠ c.me ∧ ∀ b, m.block = some b → b.hash ≠ emptyBytes := by
  cases e with
  | deliver x =>
    cases x with
    | viewChange y =>
      simp only [evOp, Option.some.injEq, StoreOp.vc.injEq] at he; subst he
      exact ⟨hg.2.2.1, hg.2.2.2⟩
    | _ => simp [evOp] at he
  | _ => simp [evOp] at he

theorem logged_vote_ne {i : Nat} {e : Event} {a : Node} {x : VCMsg} (hcfg : a.cfg = C.cfg i)
    (he : evOp e = some (.vc x)) (hgate : Gate (C.cfg i) e) : x.c.sender ≠ mySig a.cfg :=
  fun h => (gate_vc he hgate).1 (by rw [h, hcfg]; rfl)

/-- a delivered vote that gets logged has passed the checks of `handleViewChange`: read off `VCsOK` of the state
after the insert, the vote not being the member's own -/
theorem logged_vote {i : Nat} {e : Event} {a : Node} {x : VCMsg} (hcfg : a.cfg = C.cfg i)
    (he : evOp e = some (.vc x)) (hgate : Gate (C.cfg i) e)
    (hub : C11.VCsOK { a with store := a.store.apply (.vc x) }) (hx : x ∈ (a.store.apply (.vc x)).vcs) :
    C11.VoteChecked a x :=
  (hub.auth x hx).resolve_right (logged_vote_ne hcfg he hgate)

theorem vote_payload {T : List LEv} {a : Node} (hT : GInv T a)
    (hpb : ∀ pv, a.prepared = some pv → ∃ ppm, a.store.getPP a.cfg.height pv = some ppm ∧ ppm.block.isSome = true) :
    (a.prepared = none ∧ voteProof a = none ∧ voteBlock a = none)
    ∨ (∃ pv p b ppm, a.prepared = some pv ∧ extractProof a pv = some (p, b) ∧ voteProof a = some p ∧ voteBlock a = b
        ∧ b.isSome = true ∧ a.store.getPP a.cfg.height pv = some ppm
        ∧ p.ppRef.view = pv ∧ p.ppRef.hash = ppm.c.header.hash ∧ p.pRef.hash = ppm.c.header.hash
        ∧ LEv.com pv ppm.c.header.hash ∈ T) := by
  cases hp : a.prepared with
  | none => exact .inl ⟨rfl, vote_of_not_prepared hp⟩
  | some pv =>
    obtain ⟨p, ppm, h1, h2, h⟩ := C01Local.prepared_vote hT hp
    obtain ⟨ppm', hg', hb⟩ := hpb pv hp
    obtain rfl : ppm' = ppm := Option.some.inj (hg' ▸ h.getPP)
    exact .inr ⟨pv, p, _, ppm', rfl, h.extract, h1, h2, hb, h.getPP, h.view, h.hash, h.phash, h.com⟩

theorem own_vote {T : List LEv} {a : Node} (hT : GInv T a)
    (hpb : ∀ pv, a.prepared = some pv → ∃ ppm, a.store.getPP a.cfg.height pv = some ppm ∧ ppm.block.isSome = true) :
    (voteBlock a).isSome = (voteProof a).isSome
    ∧ ∀ p, voteProof a = some p → ∃ pv ppm, a.prepared = some pv ∧ voteBlock a = ppm.block ∧ C01Local.OwnProof T a pv p ppm := by
  cases hp : a.prepared with
  | none =>
    obtain ⟨h1, h2⟩ := vote_of_not_prepared hp
    exact ⟨by rw [h1, h2]; rfl, fun p hp' => by rw [h1] at hp'; cases hp'⟩
  | some pv =>
    obtain ⟨p, ppm, h1, h2, h⟩ := C01Local.prepared_vote hT hp
    obtain ⟨ppm', hg', hb⟩ := hpb pv hp
    obtain rfl : ppm' = ppm := Option.some.inj (hg' ▸ h.getPP)
    refine ⟨by rw [h1, h2, hb]; rfl, fun q hq => ?_⟩
    obtain rfl : p = q := Option.some.inj (h1 ▸ hq)
    exact ⟨pv, ppm', rfl, h2, h⟩

theorem voteProof_adm {H : List Ev} {i : Nat} {T : List LEv} {a : Node} (hc : Core C H i a T) (hua : Univ a)
    {p : Proof} (hp : voteProof a = some p) : AdmProof C H p := by
  obtain ⟨pv, ppm, _, _, h⟩ := (own_vote hc.ginv hc.prepBlock).2 p hp
  exact extractProof_adm C H i a hc.cfg hua.proposals hua.prepares hua.clean hc.adm pv p _ h.extract

theorem Core.ownvcH {H : List Ev} {i : Nat} {T : List LEv} {a : Node} (hc : Core C H i a T) :
    ∀ m ∈ a.store.vcs, m.c.sender = mySig a.cfg → m.c.header.mtype = tVC ∧
      ∀ p, m.c.header.proof = some p → p.pRef.hash = p.ppRef.hash ∧ p.ppRef.view < m.c.header.view
        ∧ Ev.com i p.ppRef.view p.ppRef.hash ∈ H := by
  intro m hm hmine
  obtain ⟨o1, o2⟩ := hc.ownvc m hm hmine
  exact ⟨o1, fun p hp => let ⟨q1, q2, q3⟩ := o2 p hp; ⟨q1, q2, mem_H_of_T hc.sees q3⟩⟩

theorem valid_cons {S : Setting} {i : Nat} {H : List Ev} {T : List LEv} {x : LEv} (hv : Valid S H)
    (hs : H.filter (mine i) = T.map (lift i)) (hl : LocalValid (x :: T)) (hcert : C01Local.Cert S H x) :
    Valid S (lift i x :: H) :=
  .cons hv (C01Local.justified_of_local S i H T x (sees_of_filter hs) (localJ_of_valid_cons hl) hcert)

theorem blk_net (hwf : WF C) {e : Event} {spi0 : List Spi} {i : Nat} {a b : Node} {l : List Out} {g : List LEv} {T : List LEv} {H : List Ev}
    (hb : Blk e spi0 a b l g) (hhon : C.honest i = true) (hmem : ∃ m ∈ C.ms, m.id = i)
    (hgate : Gate (C.cfg i) e) (hae : AdmEvent C H e)
    (hc : Core C H i a T) (hv : Valid (setting C hwf) H) (hua : Univ a) (hub : Univ b) :
    Core C ((g.map (lift i)).reverse ++ H) i b (g.reverse ++ T)
    ∧ Valid (setting C hwf) ((g.map (lift i)).reverse ++ H) := by
  have hfit : C06.Fits a.cfg.members := by rw [hc.cfg]; exact hwf.fit
  have hg := C01Local.blk_inv hfit hc.ginv hb
  have hcfg := C01Local.blk_cfg hb
  have hsub : ∀ x ∈ H, x ∈ (g.map (lift i)).reverse ++ H := fun _ h => List.mem_append_right _ h
  have hTsub : ∀ x ∈ T, x ∈ g.reverse ++ T := fun _ h => List.mem_append_right _ h
  have hadm := hc.adm.mono hsub
  obtain ⟨hvb, hpay⟩ := own_vote hc.ginv hc.prepBlock
  -- the logged votes: those logged before, a delivered one (not the member's own: gate; checked by
  -- `handleViewChange`: `VCsOK` of the end state), or the member's own
  have hvcb : ∀ m ∈ b.store.vcs, m.block.isSome = m.c.header.proof.isSome := by
    intro x hx
    rcases blk_vcs hb hx with hx | ⟨he, rfl⟩ | ⟨rfl, _⟩
    · exact hc.vcb x hx
    · exact (logged_vote hc.cfg he hgate hub.vcs hx).block_iff_proof (gate_vc he hgate).2
    · exact hvb
  have hown : ∀ m ∈ b.store.vcs, m.c.sender = mySig b.cfg → m.c.header.mtype = tVC ∧
      ∀ p, m.c.header.proof = some p → p.pRef.hash = p.ppRef.hash ∧ p.ppRef.view < m.c.header.view
        ∧ LEv.com p.ppRef.view p.ppRef.hash ∈ g.reverse ++ T := by
    intro x hx hmine
    rw [hcfg] at hmine
    rcases blk_vcs hb hx with hx | ⟨he, _⟩ | ⟨rfl, hpv⟩
    · obtain ⟨o1, o2⟩ := hc.ownvc x hx hmine
      exact ⟨o1, fun p hp => (o2 p hp).imp_right (And.imp_right (hTsub _))⟩
    · exact absurd hmine (logged_vote_ne hc.cfg he hgate)
    · refine ⟨rfl, fun p hpp => ?_⟩
      obtain ⟨pv, ppm, hprep, _, h⟩ := hpay p hpp
      exact ⟨by rw [h.phash, h.hash], by rw [h.view]; exact hpv pv hprep, by rw [h.view, h.hash]; exact hTsub _ h.com⟩
  suffices h : StoreAdm C ((g.map (lift i)).reverse ++ H) b ∧ Valid (setting C hwf) ((g.map (lift i)).reverse ++ H) from
    ⟨⟨hcfg.trans hc.cfg, hg, sees_append hc.sees g, h.1, hvcb, hown, blk_prepBlock hb hc.prepBlock⟩, h.2⟩
  clear hvcb hown
  obtain rfl : a.cfg.me = i := by rw [hc.cfg]; rfl
  cases hb with
  | quiet hq hs hl => exact ⟨storeAdm_of_store_eq C hs hadm, hv⟩
  | log op he => exact ⟨storeAdm_apply C op hadm (admOp_of_event C he hae), hv⟩
  | accept ppm f rcpt hh hv' hnone hnl hlock hsrc hval =>
    refine ⟨?_, valid_cons hv hc.sees hg.valid ?_⟩
    · -- the proposal is admissible as delivered, the own PREPARE by the acceptance just stated
      refine storeAdm_apply C (.prepare _) (storeAdm_apply C (.pp ppm) hadm ?_)
        (.of_acc tP_ne_tC List.mem_cons_self)
      rcases hsrc with ⟨rfl, _⟩ | ⟨nvm, rfl, rfl, _, _⟩
      · exact AdmRef.mono hsub hae
      · exact AdmRef.mono hsub hae.1
    · intro _ hf
      rcases hsrc with ⟨_, rfl⟩ | ⟨nvm, rfl, rfl, _, hchk⟩
      · cases hf
      · rw [hc.cfg] at hchk
        have := newViewJust_of_checked C hwf H _ nvm hgate.2.1 hchk hae.2
        rw [← hchk.2.1] at this; exact this
  | prepared v hash rcpt hv' hnot hpp hproof =>
    obtain ⟨ppm, hg1, hh1, _⟩ := hpp
    refine ⟨?_, valid_cons hv hc.sees hg.valid ?_⟩
    · have h1 := storeAdm_apply C (.commit (ownCommit a.cfg a.cfg.height v hash)) hadm (.of_cmt rfl (.inl List.mem_cons_self))
      exact ⟨h1.pps, h1.prepares, h1.commits, h1.vcs⟩
    · obtain ⟨ppm', hg2, hcert⟩ := validCert_of_extract C hwf H _ a hc.cfg hua.proposals hua.prepares hua.clean hc.adm v hproof
      obtain rfl : ppm = ppm' := Option.some.inj (hg1 ▸ hg2)
      exact hh1 ▸ hcert
  | late h v hash rcpt hq =>
    exact ⟨hadm, valid_cons hv hc.sees hg.valid (commitQuorum_of_store C hwf H _ a hc.cfg hua.commits hua.clean hc.adm h v hash hq)⟩
  | decide blk cs h v hash hq hs hcs hcq hpp =>
    refine ⟨storeAdm_of_store_eq C hs hadm, valid_cons hv hc.sees hg.valid ⟨v, ?_⟩⟩
    subst hcs
    rw [commitHash_of_quorum hcq]
    exact commitQuorum_of_store C hwf H _ a hc.cfg hua.commits hua.clean hc.adm h v hash hcq
  | propose ppm f o hh hv' hnone hlnv hf ho hown hsrc hreq hblk hmsg =>
    refine ⟨storeAdm_apply C (.pp ppm) hadm (.of_acc (hown.2.2 ▸ tPP_ne_tC) ?_), valid_cons hv hc.sees hg.valid ?_⟩
    · rw [hown.1]; exact List.mem_cons_self
    · intro _ hf'
      exact hv' ▸ newViewJust_of_elected C hwf H hv _ hhon hmem a hc.cfg hua.vcs hua.clean hc.adm hc.vcb hc.ownvcH _ (hsrc hf')
  | voteSend vc rcpt hv' hp hpv hown => exact ⟨hadm, valid_cons hv hc.sees hg.valid trivial⟩
  | voteStore vc hv' hp hown hpv hbk =>
    refine ⟨storeAdm_apply C (.vc vc) hadm (.of_mem ?_ fun p hpp => (voteProof_adm hc hua (hp ▸ hpp)).mono hsub),
      valid_cons hv hc.sees hg.valid trivial⟩
    rw [hown.1, hv']; exact List.mem_cons_self

/-! ## whatever a correct member sends is admissible -/

/-- in a message an atomic block sends, the member's own signatures cover statements the block has just
made (or made earlier) and every other signature was admissible when it was logged — so the network
model never forbids delivering a correct member's message to another correct member -/
theorem blk_sends_adm (hwf : WF C) {e : Event} {spi0 : List Spi} {i : Nat} {a b : Node} {l : List Out} {g : List LEv} {T : List LEv} {H : List Ev}
    (hb : Blk e spi0 a b l g) (hc : Core C H i a T) (hua : Univ a) :
    ∀ rcpt m, Out.send rcpt m ∈ l → AdmMsg C ((g.map (lift i)).reverse ++ H) m := by
  obtain rfl : a.cfg.me = i := by rw [hc.cfg]; rfl
  have hsub : ∀ x ∈ H, x ∈ (g.map (lift a.cfg.me)).reverse ++ H := fun _ h => List.mem_append_right _ h
  intro rcpt m hm
  cases hb with
  | quiet hq hs hl => have := hl _ hm; cases m <;> simp [stmtOf] at this
  | log op he => cases hm
  | decide blk cs h v hash hq hs hcs hcq hpp => simp at hm
  | voteStore vc hv' hp hown hpv hbk => cases hm
  | accept ppm f rcpt' hh hv' hnone hnl hlock hsrc hval =>
    obtain ⟨_, rfl⟩ : rcpt = rcpt' ∧ m = _ := by simpa using hm
    exact .of_acc tP_ne_tC List.mem_cons_self
  | prepared v hash rcpt' hv' hnot hpp hproof =>
    obtain ⟨_, rfl⟩ : rcpt = rcpt' ∧ m = _ := by simpa using hm
    exact .of_cmt rfl (.inl List.mem_cons_self)
  | late h v hash rcpt' hq =>
    obtain ⟨_, rfl⟩ : rcpt = rcpt' ∧ m = _ := by simpa using hm
    exact .of_cmt rfl (.inr List.mem_cons_self)
  | propose ppm f o hh hv' hnone hlnv hf ho hown hsrc hreq hblk hmsg =>
    have hownAdm : AdmRef C (Ev.acc a.cfg.me ppm.c.header.view ppm.c.header.hash :: H) ppm.c.header ppm.c.sender :=
      .of_acc (hown.2.2 ▸ tPP_ne_tC) (by rw [hown.1]; exact List.mem_cons_self)
    rw [List.mem_singleton] at hm
    rcases hmsg with ⟨r', rfl⟩ | ⟨r', nvm, h', rfl, hpp, hvotes, _⟩ <;> obtain ⟨_, rfl⟩ := Out.send.inj hm
    · exact hownAdm
    · refine ⟨hpp ▸ hownAdm, fun c hcm => ?_⟩
      rw [hvotes, List.mem_map] at hcm
      obtain ⟨x, hx, rfl⟩ := hcm
      exact (hc.adm.vcs x (mem_getVCs.mp hx).1).mono hsub
  | voteSend vc rcpt' hv' hp hpv hown =>
    obtain ⟨_, rfl⟩ : rcpt = rcpt' ∧ m = _ := by simpa using hm
    refine .of_mem ?_ fun p hpp => (voteProof_adm hc hua (hp ▸ hpp)).mono hsub
    rw [hown.1, hv']; exact List.mem_cons_self

/-! ## where an accepted hash comes from -/

def evPropHash : Event → Option Nat
  | .deliver (.preprepare m) => some m.c.header.hash
  | .deliver (.newView m) => some m.pp.header.hash
  | _ => none

/-- the consumer of the member taking a step approved hash `h` in that step: the step's SPI answers
begin with a positive `ValidateBlockProposal` verdict and the delivered message proposes `h`, or they
begin with the block its own `RequestNewBlockProposal` returned, whose hash is `h` -/
def ApprovedStep (e : Event) (spi : List Spi) (h : Nat) : Prop :=
  (∃ cd rest, spi = Spi.verdict true cd :: rest ∧ evPropHash e = some h)
  ∨ (∃ b cd rest, spi = Spi.proposal b cd :: rest ∧ b.hash = h)

theorem blk_origin (hwf : WF C) {e : Event} {spi0 : List Spi} {i : Nat} {a b : Node} {l : List Out} {g : List LEv} {T : List LEv} {H : List Ev}
    (hb : Blk e spi0 a b l g) (hgate : Gate (C.cfg i) e) (hae : AdmEvent C H e)
    (hc : Core C H i a T) (hv : Valid (setting C hwf) H) (hua : Univ a) :
    ∀ v h f, LEv.acc v h f ∈ g → ApprovedStep e spi0 h ∨ Locked (setting C hwf) H v h := by
  intro v h f hm
  cases hb with
  | quiet hq hs hl => cases hm
  | log op he => cases hm
  | prepared v' hash rcpt hv' hnot hpp hproof => simp at hm
  | late h' v' hash rcpt hq => simp at hm
  | decide blk cs h' v' hash hq hs hcs hcq hpp => simp at hm
  | voteSend vc rcpt hv' hp hpv hown => simp at hm
  | voteStore vc hv' hp hown hpv hbk => simp at hm
  | accept ppm f' rcpt hh hv' hnone hnl hlock hsrc hval =>
    simp only [List.mem_singleton, LEv.acc.injEq] at hm
    obtain ⟨rfl, rfl, rfl⟩ := hm
    rcases hsrc with ⟨he, hf⟩ | ⟨nvm, he, hppm, hf, hchk⟩
    · obtain ⟨cd, rest, hspi⟩ := hval (Or.inl hf)
      left; left
      exact ⟨cd, rest, hspi, by rw [he]; rfl⟩
    · cases hlv : latestVote nvm.header.votes with
      | none =>
        obtain ⟨cd, rest, hspi⟩ := hval (Or.inr ⟨nvm, he, hlv⟩)
        left; left
        exact ⟨cd, rest, hspi, by rw [he, hppm]; rfl⟩
      | some lv =>
        right
        subst he
        rw [hc.cfg] at hchk
        have := locked_of_checked C hwf H i nvm hchk hae.2 lv hlv
        rw [hppm]
        show Locked _ H nvm.pp.header.view nvm.pp.header.hash
        rw [hchk.2.1]; exact this
  | propose ppm f' o hh hv' hnone hlnv hf ho hown hsrc hreq hblk hmsg =>
    simp only [List.mem_singleton, LEv.acc.injEq] at hm
    obtain ⟨rfl, rfl, rfl⟩ := hm
    cases f with
    | false =>
      obtain ⟨b', cd, rest, hspi, hh'⟩ := hreq rfl
      left; right
      exact ⟨b', cd, rest, hspi, hh'.symm⟩
    | true =>
      obtain ⟨h', _, hcase⟩ := hsrc rfl
      rcases hcase with ⟨b', hsome⟩ | ⟨_, b', cd, rest, hspi, hh'⟩
      · right
        have := locked_of_elected C hwf H hv i a hc.cfg hua.vcs hc.adm hc.vcb hc.ownvcH h' b' ppm.c.header.hash hsome
        rw [hv']; exact this
      · left; right
        exact ⟨b', cd, rest, hspi, hh'.symm⟩

end LeanHelix.Net
