import LeanHelix.Net.BlockBody
/-!
# The network model, part 6: executions and the invariant

`NStep`: one correct member handles one event.  `Reach`: any finite sequence of such steps from the
initial state.  `reach_inv`: in every reachable state the ghost history is `Spec.Valid`, every correct
member's state is tied to it (`Core`), and the statement-carrying effects a member has emitted are
exactly its statements.  `C01Net.net_agreement` and `C04Net.net_validity` follow by `Spec/Safety.lean`.

What the theorems about reachable states are read off: `NetInv.node` (the member invariant of every
correct member, started or not), `NodeInv.stmt` (an emitted statement is in the history), `reach_member`
(a property of one member that every handled event keeps; `reach_cfg` is the first instance),
`event_next` (every enabled event can be taken), `reach_blocks` (block bodies, under the consumer
contract A2).
-/
namespace LeanHelix.Net
open LeanHelix LeanHelix.Msg LeanHelix.Term LeanHelix.Spec
open LeanHelix.C01Local (GInv LocalJ LocalValid lift)

variable {C : NetCfg}

/-- `fin`: the node at the end of the event.  `Univ` is known for it (`univ_step`), and every log in between
inherits it (`Univ.sub`) -/
theorem runs_net (hwf : WF C) {e : Event} {spi0 : List Spi} {i : Nat} {w w' : Term.W} {g : List LEv} (hr : Runs e spi0 w w' g) :
    ∀ {T : List LEv} {H : List Ev} (fin : Node), StoreLe w'.n.store fin.store → fin.cfg = w.n.cfg → Univ fin →
      C.honest i = true → (∃ m ∈ C.ms, m.id = i) → Gate (C.cfg i) e → AdmEvent C H e →
      Core C H i w.n T → Valid (setting C hwf) H →
      Core C ((g.map (lift i)).reverse ++ H) i w'.n (g.reverse ++ T)
      ∧ Valid (setting C hwf) ((g.map (lift i)).reverse ++ H)
      ∧ (∀ v h f, LEv.acc v h f ∈ g → ApprovedStep e spi0 h ∨ Locked (setting C hwf) ((g.map (lift i)).reverse ++ H) v h)
      ∧ (∃ l, w'.outs = w.outs ++ l ∧ (∀ rcpt m, Out.send rcpt m ∈ l → AdmMsg C ((g.map (lift i)).reverse ++ H) m)
          ∧ (SpiA2 e spi0 → Body w.n → Body w'.n ∧ OutsOK w.n.cfg l)) := by
  induction hr with
  | refl w =>
    intro T H fin _ _ _ _ _ _ _ hc hv
    refine ⟨hc, hv, ?_, [], (List.append_nil _).symm, ?_, ?_⟩
    · intro _ _ _ hm; cases hm
    · intro _ _ hm; cases hm
    · intro _ hb1; exact ⟨hb1, outsOK_nil _⟩
  | blk ho hb =>
    intro T H fin hle hcfg hfin hhon hmem hgate hae hc hv
    have hcb := C01Local.blk_cfg hb
    have hua := Univ.sub hcfg.symm ((blk_storeLe hb).trans hle) hfin
    have hub := Univ.sub (a := _) (by rw [hcb]; exact hcfg.symm) hle hfin
    obtain ⟨r1, r2⟩ := blk_net hwf hb hhon hmem hgate hae hc hv hua hub
    exact ⟨r1, r2, fun v h f hm => (blk_origin hwf hb hgate hae hc hv hua v h f hm).imp_right
        (Locked.mono fun _ hx => List.mem_append_right _ hx),
      _, ho, blk_sends_adm hwf hb hc hua, fun hA2 hb1 => blk_body hwf hb hgate hA2 hmem hc hua hub hb1⟩
  | trans r1 r2 ih1 ih2 =>
    rename_i g1 g2
    intro T H fin hle hcfg hfin hhon hmem hgate hae hc hv
    obtain ⟨hc1, hv1, ho1, l1, hl1, hs1, hk1⟩ := ih1 fin ((runs_storeLe r2).trans hle) hcfg hfin hhon hmem hgate hae hc hv
    have hae1 : AdmEvent C ((g1.map (lift i)).reverse ++ H) e :=
      AdmEvent.mono (fun _ h => List.mem_append_right _ h) hae
    obtain ⟨hc2, hv2, ho2, l2, hl2, hs2, hk2⟩ := ih2 fin hle (by rw [C01Local.runs_cfg r1]; exact hcfg) hfin hhon hmem hgate hae1 hc1 hv1
    have e1 : ((g1 ++ g2).map (lift i)).reverse ++ H = (g2.map (lift i)).reverse ++ ((g1.map (lift i)).reverse ++ H) := by
      rw [List.map_append, List.reverse_append, List.append_assoc]
    have e2 : (g1 ++ g2).reverse ++ T = g2.reverse ++ (g1.reverse ++ T) := by
      rw [List.reverse_append, List.append_assoc]
    rw [e1, e2]
    refine ⟨hc2, hv2, ?_, l1 ++ l2, by rw [hl2, hl1, List.append_assoc], ?_, ?_⟩
    · intro v h f hm
      rcases List.mem_append.mp hm with hm1 | hm2
      · exact (ho1 v h f hm1).imp_right (Locked.mono fun _ hx => List.mem_append_right _ hx)
      · exact ho2 v h f hm2
    · intro rcpt m hm
      rcases List.mem_append.mp hm with hm1 | hm2
      · exact AdmMsg.mono (fun _ hx => List.mem_append_right _ hx) (hs1 rcpt m hm1)
      · exact hs2 rcpt m hm2
    · intro hA2 hb1
      obtain ⟨x1, x3⟩ := hk1 hA2 hb1
      obtain ⟨y1, y3⟩ := hk2 hA2 x1
      rw [C01Local.runs_cfg r1] at y3
      exact ⟨y1, outsOK_append x3 y3⟩

/-! ## the network -/

structure Net where
  node : Nat → Node
  started : Nat → Bool
  outs : Nat → List Out
  H : List Ev
  /-- ghost: the schedule so far (member, event, SPI answers), newest first -/
  trace : List (Nat × Event × List Spi)

def Net.init (C : NetCfg) : Net := ⟨fun i => { cfg := C.cfg i }, fun _ => false, fun _ => [], [], []⟩

def upd {α : Type} (f : Nat → α) (i : Nat) (x : α) : Nat → α := fun j => if j = i then x else f j

theorem upd_same {α : Type} (f : Nat → α) (i : Nat) (x : α) : upd f i x i = x := by simp [upd]
theorem upd_other {α : Type} (f : Nat → α) {i j : Nat} (x : α) (h : j ≠ i) : upd f i x j = f j := by simp [upd, h]

/-- one correct member handles one event; the ghost history grows by the statements of the atomic
blocks of the handling (`hr`, `hst`: the blocks are a decomposition of exactly this `Term.step`) -/
inductive NStep (C : NetCfg) : Net → Net → Prop where
  | start (net : Net) (i : Nat) (first : Bool) (spi : List Spi) (w' : Term.W) (g : List LEv)
      (hh : C.honest i = true) (hm : ∃ m ∈ C.ms, m.id = i) (hs : net.started i = false)
      (hr : Runs (.start first) spi { n := net.node i, spi := spi } w' g)
      (hst : step (net.node i) (.start first) spi = (w'.n, w'.outs)) :
      NStep C net ⟨upd net.node i w'.n, upd net.started i true, upd net.outs i (net.outs i ++ w'.outs),
        (g.map (lift i)).reverse ++ net.H, (i, .start first, spi) :: net.trace⟩
  | event (net : Net) (i : Nat) (e : Event) (spi : List Spi) (w' : Term.W) (g : List LEv)
      (hh : C.honest i = true) (hm : ∃ m ∈ C.ms, m.id = i) (hs : net.started i = true)
      (hns : ∀ c, e ≠ .start c) (hg : Gate (C.cfg i) e) (ha : AdmEvent C net.H e)
      (hr : Runs e spi { n := net.node i, spi := spi } w' g)
      (hst : step (net.node i) e spi = (w'.n, w'.outs)) :
      NStep C net ⟨upd net.node i w'.n, upd net.started i true, upd net.outs i (net.outs i ++ w'.outs),
        (g.map (lift i)).reverse ++ net.H, (i, e, spi) :: net.trace⟩

inductive Reach (C : NetCfg) : Net → Prop where
  | init : Reach C (Net.init C)
  | step {a b : Net} : Reach C a → NStep C a b → Reach C b

/-! ## the invariant -/

structure NodeInv (C : NetCfg) (H : List Ev) (i : Nat) (n : Node) (outs : List Out) : Prop where
  core : ∃ T, Core C H i n T ∧ outs.filterMap stmtOf = T.reverse.filterMap erase
  univ : Univ n
  views : ViewsOK n
  lv : C10.LVInv n
  /-- everything the member has sent is admissible: the network never forbids delivering it to a correct peer -/
  sends : ∀ rcpt m, Out.send rcpt m ∈ outs → AdmMsg C H m

def ApprovedBy (trace : List (Nat × Event × List Spi)) (m h : Nat) : Prop :=
  ∃ t ∈ trace, t.1 = m ∧ ApprovedStep t.2.1 t.2.2 h

structure NetInv (C : NetCfg) (hwf : WF C) (net : Net) : Prop where
  valid : Valid (setting C hwf) net.H
  origin : ∀ i v h, Ev.acc i v h ∈ net.H → ApprovedBy net.trace i h ∨ Locked (setting C hwf) net.H v h
  fresh : ∀ i, net.started i = false → net.node i = { cfg := C.cfg i } ∧ net.outs i = [] ∧ net.H.filter (mine i) = []
  nodes : ∀ i, C.honest i = true → (∃ m ∈ C.ms, m.id = i) → net.started i = true → NodeInv C net.H i (net.node i) (net.outs i)

theorem univ_init (c : Cfg) : Univ { cfg := c } :=
  ⟨C03.commitsOK_init c, C11.preparesOK_init c, (by intro p h; cases h), C11.vcsOK_init c, logClean_init c, ownPreparesNL_init c⟩

theorem core_init (C : NetCfg) (H : List Ev) (i : Nat) (hs : H.filter (mine i) = []) :
    Core C H i { cfg := C.cfg i } [] where
  cfg := rfl
  ginv := C01Local.ginv_init _
  sees := by rw [hs]; rfl
  adm := ⟨(by intro m h; cases h), (by intro m h; cases h), (by intro m h; cases h), (by intro m h; cases h)⟩
  vcb := by intro m h; cases h
  ownvc := by intro m h; cases h
  prepBlock := by intro pv h; cases h

theorem univ_step (n : Node) (e : Event) (spi : List Spi) (hme : isMember n.cfg n.cfg.me = true) (hg : Gate n.cfg e)
    (h : Univ n) : Univ (step n e spi).1 :=
  have hev := step_ev n e spi
  ⟨C03.commits_ok_step n e spi hme h.commits, C11.preparesOK_evolves hme hev h.prepares,
   C04.stored_proposals_are_from_the_leader hev h.proposals, C11.vcsOK_evolves hev h.vcs,
   step_clean n e spi (eventClean_of_gate n e hg) h.clean, ownPreparesNL_evolves (step_evN n e spi hg) h.ownNL⟩

theorem filter_frame {H : List Ev} {i j : Nat} (hij : i ≠ j) (g : List LEv) :
    ((g.map (lift i)).reverse ++ H).filter (mine j) = H.filter (mine j) := by
  rw [List.filter_append, List.filter_eq_nil_iff.mpr, List.nil_append]
  intro x hx
  obtain ⟨y, _, rfl⟩ := List.mem_map.mp (List.mem_reverse.mp hx)
  rw [mine_lift_ne hij]; exact Bool.false_ne_true

theorem core_frame {H : List Ev} {i j : Nat} (hij : i ≠ j) {n : Node} {T : List LEv} (g : List LEv)
    (hc : Core C H j n T) : Core C ((g.map (lift i)).reverse ++ H) j n T :=
  { hc with sees := by rw [filter_frame hij]; exact hc.sees, adm := hc.adm.mono (fun _ h => List.mem_append_right _ h) }

theorem nodeInv_fresh (C : NetCfg) (H : List Ev) (i : Nat) (hs : H.filter (mine i) = []) :
    NodeInv C H i { cfg := C.cfg i } [] :=
  ⟨⟨[], core_init C H i hs, rfl⟩, univ_init _, viewsOK_init _, C10.lvInv_init _, fun _ _ hm => by cases hm⟩

theorem NetInv.node {hwf : WF C} {net : Net} (hinv : NetInv C hwf net) {i : Nat} (hh : C.honest i = true)
    (hm : ∃ m ∈ C.ms, m.id = i) : NodeInv C net.H i (net.node i) (net.outs i) := by
  cases hs : net.started i with
  | true => exact hinv.nodes i hh hm hs
  | false => obtain ⟨f1, f2, f3⟩ := hinv.fresh i hs; rw [f1, f2]; exact nodeInv_fresh C _ i f3

def StmtIn (i : Nat) (H : List Ev) : Stmt → Prop
  | .acc v h => Ev.acc i v h ∈ H
  | .cmt v h => Ev.com i v h ∈ H ∨ Ev.lcom i v h ∈ H
  | .vote v pf => Ev.vote i v pf ∈ H
  | .dec h => Ev.dec i h ∈ H

theorem stmtIn_of_erase {i : Nat} {H : List Ev} {x : LEv} {s : Stmt} (he : Term.erase x = some s) (hx : lift i x ∈ H) :
    StmtIn i H s := by
  cases x with
  | vote v pf sent => cases sent <;> simp only [Term.erase, Option.some.injEq, reduceCtorEq] at he; subst he; exact hx
  | acc v h f => simp only [Term.erase, Option.some.injEq] at he; subst he; exact hx
  | com v h => simp only [Term.erase, Option.some.injEq] at he; subst he; exact .inl hx
  | lcom v h => simp only [Term.erase, Option.some.injEq] at he; subst he; exact .inr hx
  | dec h => simp only [Term.erase, Option.some.injEq] at he; subst he; exact hx

theorem NodeInv.stmt {H : List Ev} {i : Nat} {n : Node} {outs : List Out} (h : NodeInv C H i n outs)
    {o : Out} {s : Stmt} (ho : o ∈ outs) (hs : stmtOf o = some s) : StmtIn i H s := by
  obtain ⟨T, hcore, herase⟩ := h.core
  have h1 : s ∈ outs.filterMap stmtOf := List.mem_filterMap.mpr ⟨o, ho, hs⟩
  rw [herase] at h1
  obtain ⟨x, hx, he⟩ := List.mem_filterMap.mp h1
  exact stmtIn_of_erase he (mem_H_of_T hcore.sees (List.mem_reverse.mp hx))

/-- what both kinds of step are: member `i` handles `e`, and the atomic blocks `runs` are a decomposition of exactly
this `Term.step` -/
structure MStep (C : NetCfg) (net : Net) (i : Nat) (e : Event) (spi : List Spi) (w' : Term.W) (g : List LEv) : Prop where
  honest : C.honest i = true
  member : ∃ m ∈ C.ms, m.id = i
  gate : Gate (C.cfg i) e
  adm : AdmEvent C net.H e
  runs : Runs e spi { n := net.node i, spi := spi } w' g
  step : step (net.node i) e spi = (w'.n, w'.outs)

theorem nstep_cases {net net' : Net} (hs : NStep C net net') : ∃ i e spi w' g, MStep C net i e spi w' g
    ∧ net' = ⟨upd net.node i w'.n, upd net.started i true, upd net.outs i (net.outs i ++ w'.outs),
      (g.map (lift i)).reverse ++ net.H, (i, e, spi) :: net.trace⟩ := by
  cases hs with
  | start i first spi w' g hh hm hs hr hst => exact ⟨i, .start first, spi, w', g, ⟨hh, hm, trivial, trivial, hr, hst⟩, rfl⟩
  | event i e spi w' g hh hm hs hns hg ha hr hst => exact ⟨i, e, spi, w', g, ⟨hh, hm, hg, ha, hr, hst⟩, rfl⟩

theorem step_inv (hwf : WF C) {net : Net} (hinv : NetInv C hwf net) {i : Nat} {e : Event} {spi : List Spi}
    {w' : Term.W} {g : List LEv} (s : MStep C net i e spi w' g) :
    NetInv C hwf ⟨upd net.node i w'.n, upd net.started i true, upd net.outs i (net.outs i ++ w'.outs),
      (g.map (lift i)).reverse ++ net.H, (i, e, spi) :: net.trace⟩
    ∧ (SpiA2 e spi → Body (net.node i) → Body w'.n ∧ OutsOK (C.cfg i) w'.outs) := by
  obtain ⟨hh, hm, hgate, ha, hr, hst⟩ := s
  have hni := hinv.node hh hm
  obtain ⟨T, hcore, herase⟩ := hni.core
  have hcfg : (net.node i).cfg = C.cfg i := hcore.cfg
  have hfin : Univ w'.n := by
    have := univ_step (net.node i) e spi (by rw [hcfg]; exact isMember_of_mem C i hm) (by rw [hcfg]; exact hgate) hni.univ
    rw [hst] at this; exact this
  obtain ⟨hc', hv', ho', lnew, hlnew, hsnew, hbody⟩ := runs_net hwf hr w'.n (StoreLe.refl _) (C01Local.runs_cfg hr) hfin hh hm hgate ha hcore hinv.valid
  have hl' : w'.outs = lnew := by simpa using hlnew
  refine ⟨⟨hv', ?_, ?_, ?_⟩, by rw [hl', ← hcfg]; exact hbody⟩
  · intro j v h hacc
    dsimp only at hacc ⊢
    rcases List.mem_append.mp hacc with hnew | hold
    · rw [List.mem_reverse, List.mem_map] at hnew
      obtain ⟨x, hx, hxe⟩ := hnew
      have hj : j = i := by
        have := evOwner_lift i x
        rw [hxe] at this
        exact this
      subst hj
      obtain ⟨f, rfl⟩ := lift_inj_acc hxe
      exact (ho' v h f hx).imp_left fun hap => ⟨(j, e, spi), List.mem_cons_self .., rfl, hap⟩
    · exact (hinv.origin j v h hold).imp (fun ⟨t, ht, h1, h2⟩ => ⟨t, List.mem_cons_of_mem _ ht, h1, h2⟩)
        (Locked.mono fun _ hx => List.mem_append_right _ hx)
  · intro j hsj
    dsimp only at hsj ⊢
    by_cases hji : j = i
    · subst hji; simp [upd] at hsj
    · have hsj' : net.started j = false := by rw [upd_other _ _ hji] at hsj; exact hsj
      obtain ⟨f1, f2, f3⟩ := hinv.fresh j hsj'
      refine ⟨by rw [upd_other _ _ hji]; exact f1, by rw [upd_other _ _ hji]; exact f2, ?_⟩
      show (((g.map (lift i)).reverse ++ net.H).filter (mine j)) = []
      rw [filter_frame (Ne.symm hji)]; exact f3
  · intro j hhj hmj hsj
    dsimp only at hsj ⊢
    by_cases hji : j = i
    · subst hji
      show NodeInv C _ j (upd net.node j w'.n j) (upd net.outs j (net.outs j ++ w'.outs) j)
      rw [upd_same, upd_same]
      refine ⟨⟨g.reverse ++ T, hc', hr.erase_outs herase⟩, hfin, ?_, ?_, ?_⟩
      · have := step_views (net.node j) e spi hni.views
        rw [hst] at this; exact this
      · have := (C10.step_nv (net.node j) e spi hni.lv).2.1
        rw [hst] at this; exact this
      · intro rcpt m hm
        rcases List.mem_append.mp hm with hm1 | hm2
        · exact AdmMsg.mono (fun _ hx => List.mem_append_right _ hx) (hni.sends rcpt m hm1)
        · rw [hl'] at hm2
          exact hsnew rcpt m hm2
    · have hsj' : net.started j = true := by rw [upd_other _ _ hji] at hsj; exact hsj
      obtain ⟨⟨Tj, hcj, hej⟩, huj, hvj, hlj, hsj⟩ := hinv.nodes j hhj hmj hsj'
      show NodeInv C _ j (upd net.node i w'.n j) (upd net.outs i (net.outs i ++ w'.outs) j)
      rw [upd_other _ _ hji, upd_other _ _ hji]
      exact ⟨⟨Tj, core_frame (Ne.symm hji) g hcj, hej⟩, huj, hvj, hlj,
        fun rcpt m hm => AdmMsg.mono (fun _ hx => List.mem_append_right _ hx) (hsj rcpt m hm)⟩

theorem netInv_init (hwf : WF C) : NetInv C hwf (Net.init C) where
  valid := .nil
  origin := by intro _ _ _ hm; cases hm
  fresh := fun _ _ => ⟨rfl, rfl, rfl⟩
  nodes := by intro _ _ _ hs; cases hs

theorem reach_inv (hwf : WF C) {net : Net} (hr : Reach C net) : NetInv C hwf net := by
  induction hr with
  | init => exact netInv_init hwf
  | step _ hs ih =>
    obtain ⟨i, e, spi, w', g, s, rfl⟩ := nstep_cases hs
    exact (step_inv hwf ih s).1

/-- the step relation does not restrict the term model: the decomposition into atomic blocks that `NStep` asks
for always exists (`step_runs`), so a correct member can start, and once started take every gated, admissible
event, with any SPI answers -/
theorem event_next (hwf : WF C) {net : Net} (hr : Reach C net) {i : Nat} (hh : C.honest i = true)
    (hm : ∃ m ∈ C.ms, m.id = i) (e : Event) (spi : List Spi)
    (he : (∃ first, e = .start first ∧ net.started i = false)
      ∨ (net.started i = true ∧ (∀ c, e ≠ .start c) ∧ Gate (C.cfg i) e ∧ AdmEvent C net.H e)) :
    ∃ g : List LEv, NStep C net ⟨upd net.node i (step (net.node i) e spi).1, upd net.started i true,
      upd net.outs i (net.outs i ++ (step (net.node i) e spi).2), (g.map (lift i)).reverse ++ net.H, (i, e, spi) :: net.trace⟩ := by
  have hinv := reach_inv hwf hr
  obtain ⟨⟨T, hcore, _⟩, _, hvo, hlv, _⟩ := hinv.node hh hm
  have hloc : EventLocal (net.node i) e := by
    rcases he with ⟨first, rfl, hs⟩ | ⟨_, hns, hg, _⟩
    · rw [(hinv.fresh i hs).1]; exact ⟨rfl, rfl⟩
    · exact eventLocal_of_gate _ e (by rw [hcore.cfg]; exact hg) hns
  obtain ⟨w', g, hruns, hst⟩ := step_runs (net.node i) e spi hloc hvo hlv hcore.ginv.leader
  rw [hst]
  rcases he with ⟨first, rfl, hs⟩ | ⟨hs, hns, hg, ha⟩
  · exact ⟨g, .start net i first spi w' g hh hm hs hruns hst⟩
  · exact ⟨g, .event net i e spi w' g hh hm hs hns hg ha hruns hst⟩

/-! ## block bodies, own votes and NEW_VIEWs, under the consumer contract A2 -/

def BodyInv (C : NetCfg) (net : Net) : Prop :=
  ∀ i, C.honest i = true → (∃ m ∈ C.ms, m.id = i) → Body (net.node i) ∧ OutsOK (C.cfg i) (net.outs i)

theorem body_fresh (c : Cfg) : Body { cfg := c } :=
  ⟨(by intro p h; cases h), (by intro m h; cases h), (by intro m h; cases h)⟩

theorem reach_blocks (hwf : WF C) {net : Net} (hr : Reach C net) (hA2 : TraceA2 net.trace) : BodyInv C net := by
  induction hr with
  | init => exact fun i _ _ => ⟨body_fresh _, outsOK_nil _⟩
  | step hprev hs ih =>
    obtain ⟨i, e, spi, w', g, s, rfl⟩ := nstep_cases hs
    have hold := ih (fun t ht => hA2 t (List.mem_cons_of_mem _ ht))
    intro j hhj hmj
    show Body (upd _ i w'.n j) ∧ OutsOK _ (upd _ i _ j)
    by_cases hji : j = i
    · subst hji
      obtain ⟨o1, o3⟩ := hold j hhj hmj
      obtain ⟨n1, n3⟩ := (step_inv hwf (reach_inv hwf hprev) s).2 (hA2 (j, e, spi) List.mem_cons_self) o1
      rw [upd_same, upd_same]
      exact ⟨n1, outsOK_append o3 n3⟩
    · rw [upd_other _ _ hji, upd_other _ _ hji]
      exact hold j hhj hmj

theorem reach_member {P : Nat → Node → List Out → Prop} (h0 : ∀ i, P i { cfg := C.cfg i } [])
    (hstep : ∀ (i : Nat) (n : Node) (outs : List Out) (e : Event) (spi : List Spi) (w' : Term.W) (g : List LEv),
      Runs e spi { n := n, spi := spi } w' g → step n e spi = (w'.n, w'.outs) → P i n outs → P i w'.n (outs ++ w'.outs))
    {net : Net} (hr : Reach C net) (i : Nat) : P i (net.node i) (net.outs i) := by
  induction hr with
  | init => exact h0 i
  | step _ hs ih =>
    obtain ⟨j, e, spi, w', g, s, rfl⟩ := nstep_cases hs
    show P i (upd _ j w'.n i) (upd _ j _ i)
    by_cases hij : i = j
    · subst hij; rw [upd_same, upd_same]; exact hstep _ _ _ e spi w' g s.runs s.step ih
    · rw [upd_other _ _ hij, upd_other _ _ hij]; exact ih

theorem reach_cfg {net : Net} (hr : Reach C net) (i : Nat) : (net.node i).cfg = C.cfg i :=
  reach_member (P := fun i n _ => n.cfg = C.cfg i) (fun _ => rfl) (fun _ _ _ _ _ _ _ hr _ h => (C01Local.runs_cfg hr).trans h) hr i

end LeanHelix.Net
