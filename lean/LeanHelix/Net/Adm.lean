import LeanHelix.Props.C01Local
import LeanHelix.Props.C11NewView
import LeanHelix.Props.C03
import LeanHelix.Props.C04
import LeanHelix.Lemmas.TermClean
import LeanHelix.Lemmas.TermOwn
/-!
# The network model, part 1: what the adversary can show to a correct node

One height of one instance.  `NetCfg` fixes the instance id, the height, the committee (ids and
weights, in leader order) and which ids are correct (`honest`).  All correct members run the term
model (`Model/Term.lean`, tied to the Go code by the `node` correspondence suite) with the
configuration `C.cfg i`.

**Signatures.**  In the term model every `SenderSignature` carries the key manager's verdict `ok`.
The network model constrains which verdicts the adversary can obtain — *unforgeability*: a signature
that verifies (`ok = true`), is attributed to a *correct* member and covers a statement *of this
instance and this height* can only be shown if that member made the statement.  `H` is the history
of statements correct members have made so far (`Spec.Ev`); the constraint is expressed against it:

* a verifying PREPREPARE- or PREPARE-typed block reference `(v, h)` by correct `m` needs `acc m v h ∈ H`;
* a verifying COMMIT-typed reference needs `com m v h ∈ H ∨ lcom m v h ∈ H`;
* a verifying VIEW_CHANGE header for view `v` whose proof certifies `pf` needs `vote m v pf ∈ H`.

Everything else is free: signatures of Byzantine members and outsiders, failing signatures,
signatures over statements of another instance or height (correct members of other instances sign
arbitrary things with the same keys), any field values, any nesting, replay, reordering, loss and
duplication.  This is *more* permissive than real unforgeability (a PREPARE signature may be
re-labelled as a PREPREPARE signature of the same member, and a vote's signature only binds the
(view, certified (view, hash)) of the vote, not the exact proof bytes), so the safety theorem proved
against it is stronger.
-/
namespace LeanHelix.Net
open LeanHelix LeanHelix.Msg LeanHelix.Term LeanHelix.Spec

structure NetCfg where
  inst : Nat
  height : Nat
  ms : List Member
  honest : Nat → Bool

def NetCfg.cfg (C : NetCfg) (i : Nat) : Cfg := ⟨i, C.inst, C.height, C.ms⟩

/-- the premise of the safety properties: total weight fits 64 bits and is positive, Byzantine weight ≤ f -/
structure WF (C : NetCfg) : Prop where
  fit : C06.Fits C.ms
  byz : wt C.ms (fun i => !C.honest i) ≤ F C.ms

def setting (C : NetCfg) (h : WF C) : Setting := ⟨C.ms, C.honest, h.fit.pos, h.byz⟩

variable (C : NetCfg)

/-! ## admissible signatures -/

def sigAcc (H : List Ev) (s : SSig) (v h : Nat) : Prop :=
  s.ok = true → C.honest s.id = true → Ev.acc s.id v h ∈ H

def sigCmt (H : List Ev) (s : SSig) (v h : Nat) : Prop :=
  s.ok = true → C.honest s.id = true → (Ev.com s.id v h ∈ H ∨ Ev.lcom s.id v h ∈ H)

def sigVote (H : List Ev) (s : SSig) (v : Nat) (pf : Option (Nat × Nat)) : Prop :=
  s.ok = true → C.honest s.id = true → Ev.vote s.id v pf ∈ H

/-- a signed block reference (the signed header of PREPREPARE / PREPARE / COMMIT, also inside proofs) -/
def AdmRef (H : List Ev) (r : BlockRef) (s : SSig) : Prop :=
  r.inst = C.inst → r.height = C.height →
    ((r.mtype = tPP ∨ r.mtype = tP) → sigAcc C H s r.view r.hash) ∧ (r.mtype = tC → sigCmt C H s r.view r.hash)

def AdmProof (H : List Ev) (p : Proof) : Prop :=
  AdmRef C H p.ppRef p.ppSender ∧ ∀ s ∈ p.pSenders, AdmRef C H p.pRef s

def AdmVC (H : List Ev) (c : VCContent) : Prop :=
  (c.header.inst = C.inst → c.header.height = C.height → c.header.mtype = tVC →
      sigVote C H c.sender c.header.view (pfOf c.header.proof))
  ∧ (∀ p, c.header.proof = some p → AdmProof C H p)

def AdmOp (H : List Ev) : StoreOp → Prop
  | .pp m => AdmRef C H m.c.header m.c.sender
  | .prepare m => AdmRef C H m.header m.sender
  | .commit m => AdmRef C H m.header m.sender
  | .vc m => AdmVC C H m.c

def AdmMsg (H : List Ev) : Message → Prop
  | .preprepare m => AdmRef C H m.c.header m.c.sender
  | .prepare m => AdmRef C H m.header m.sender
  | .commit m => AdmRef C H m.header m.sender
  | .viewChange m => AdmVC C H m.c
  | .newView m => AdmRef C H m.pp.header m.pp.sender ∧ ∀ c ∈ m.header.votes, AdmVC C H c

def AdmEvent (H : List Ev) : Event → Prop
  | .deliver m => AdmMsg C H m
  | _ => True

structure StoreAdm (H : List Ev) (n : Node) : Prop where
  pps : ∀ m ∈ n.store.pps, AdmRef C H m.c.header m.c.sender
  prepares : ∀ m ∈ n.store.prepares, AdmRef C H m.header m.sender
  commits : ∀ m ∈ n.store.commits, AdmRef C H m.header m.sender
  vcs : ∀ m ∈ n.store.vcs, AdmVC C H m.c

/-! ## a signature is admissible once the history holds the statement it stands for -/

theorem AdmRef.of_acc {C} {H : List Ev} {r : BlockRef} {s : SSig} (ht : r.mtype ≠ tC)
    (h : Ev.acc s.id r.view r.hash ∈ H) : AdmRef C H r s :=
  fun _ _ => ⟨fun _ _ _ => h, fun hc => absurd hc ht⟩

theorem AdmRef.of_cmt {C} {H : List Ev} {r : BlockRef} {s : SSig} (ht : r.mtype = tC)
    (h : Ev.com s.id r.view r.hash ∈ H ∨ Ev.lcom s.id r.view r.hash ∈ H) : AdmRef C H r s := by
  refine fun _ _ => ⟨fun ht' => ?_, fun _ _ _ => h⟩
  rw [ht] at ht'
  rcases ht' with h | h <;> cases h

theorem AdmVC.of_mem {C} {H : List Ev} {c : VCContent}
    (hv : Ev.vote c.sender.id c.header.view (pfOf c.header.proof) ∈ H)
    (hp : ∀ p, c.header.proof = some p → AdmProof C H p) : AdmVC C H c :=
  ⟨fun _ _ _ _ _ => hv, hp⟩

/-! ## monotonicity in the history -/

section mono
variable {C} {H H' : List Ev} (hsub : ∀ e ∈ H, e ∈ H')
include hsub

theorem AdmRef.mono {r : BlockRef} {s : SSig} (h : AdmRef C H r s) : AdmRef C H' r s := by
  intro h1 h2
  obtain ⟨a, b⟩ := h h1 h2
  refine ⟨fun ht ok hh => hsub _ (a ht ok hh), fun ht ok hh => ?_⟩
  rcases b ht ok hh with x | x
  · exact Or.inl (hsub _ x)
  · exact Or.inr (hsub _ x)

theorem AdmProof.mono {p : Proof} (h : AdmProof C H p) : AdmProof C H' p :=
  ⟨h.1.mono hsub, fun s hs => (h.2 s hs).mono hsub⟩

theorem AdmVC.mono {c : VCContent} (h : AdmVC C H c) : AdmVC C H' c :=
  ⟨fun h1 h2 h3 ok hh => hsub _ (h.1 h1 h2 h3 ok hh), fun p hp => (h.2 p hp).mono hsub⟩

theorem AdmOp.mono {op : StoreOp} (h : AdmOp C H op) : AdmOp C H' op := by
  cases op with
  | pp m => exact AdmRef.mono hsub h
  | prepare m => exact AdmRef.mono hsub h
  | commit m => exact AdmRef.mono hsub h
  | vc m => exact AdmVC.mono hsub h

theorem StoreAdm.mono {n : Node} (h : StoreAdm C H n) : StoreAdm C H' n :=
  ⟨fun m hm => (h.pps m hm).mono hsub, fun m hm => (h.prepares m hm).mono hsub,
   fun m hm => (h.commits m hm).mono hsub, fun m hm => (h.vcs m hm).mono hsub⟩

theorem AdmMsg.mono {m : Message} (h : AdmMsg C H m) : AdmMsg C H' m := by
  cases m with
  | newView x => exact ⟨AdmRef.mono hsub h.1, fun c hc => AdmVC.mono hsub (h.2 c hc)⟩
  | viewChange x => exact AdmVC.mono hsub h
  | _ => exact AdmRef.mono hsub h

theorem AdmEvent.mono {e : Event} (h : AdmEvent C H e) : AdmEvent C H' e := by
  cases e with
  | deliver m => exact AdmMsg.mono hsub h
  | _ => trivial

end mono

theorem storeAdm_of_store_eq {H : List Ev} {a b : Node} (hs : b.store = a.store) (h : StoreAdm C H a) : StoreAdm C H b :=
  ⟨by rw [hs]; exact h.pps, by rw [hs]; exact h.prepares, by rw [hs]; exact h.commits, by rw [hs]; exact h.vcs⟩

theorem storeAdm_apply {H : List Ev} {a : Node} (op : StoreOp) (h : StoreAdm C H a) (hop : AdmOp C H op) :
    StoreAdm C H { a with store := a.store.apply op } :=
  ⟨fun x hx => (mem_apply_pps hx).elim (h.pps x) (fun e => by subst e; exact hop),
   fun x hx => (mem_apply_prepares hx).elim (h.prepares x) (fun e => by subst e; exact hop),
   fun x hx => (mem_apply_commits hx).elim (h.commits x) (fun e => by subst e; exact hop),
   fun x hx => (mem_apply_vcs hx).elim (h.vcs x) (fun e => by subst e; exact hop)⟩

theorem admOp_of_event {H : List Ev} {e : Event} {op : StoreOp} (he : evOp e = some op) (ha : AdmEvent C H e) :
    AdmOp C H op := by
  cases e with
  | deliver m =>
    cases m with
    | prepare x => simp only [evOp, Option.some.injEq] at he; subst he; exact ha
    | commit x => simp only [evOp, Option.some.injEq] at he; subst he; exact ha
    | viewChange x => simp only [evOp, Option.some.injEq] at he; subst he; exact ha
    | preprepare x => simp [evOp] at he
    | newView x => simp [evOp] at he
  | start c => simp [evOp] at he
  | election h v => simp [evOp] at he
  | cancelOlder h v => simp [evOp] at he

/-! ## quorums of the model are quorums of the abstract layer -/

theorem quorum_wt (c : Cfg) (hfit : C06.Fits c.members) (ids : List Nat) (h : isQuorum c ids = true) :
    Q c.members ≤ wt c.members (fun i => ids.contains i) :=
  (isQuorum_iff hfit.pos hfit.fits ids).mp h

theorem isQuorum_ne_nil (c : Cfg) (hfit : C06.Fits c.members) (ids : List Nat) (h : isQuorum c ids = true) : ids ≠ [] :=
  ne_nil_of_isQuorum h

end LeanHelix.Net
