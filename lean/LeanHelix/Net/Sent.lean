import LeanHelix.Net.Reach
/-!
# The network model, part 7: what a member has emitted about its own position

`Sent n outs`: a node that is prepared in view `pv` holds that view's proposal, has logged its own
COMMIT for it and has sent that COMMIT; every NEW_VIEW and every PREPREPARE among its effects is its
stored proposal of that view.  Invariant of every atomic block (`blk_sent`), hence of every reachable
state of the network (`reach_sent`) — no assumption about the consumer or the adversary is involved.
Used by the liveness composition (`Props/C05Net.lean`) to read the leader's state off "it sent this
NEW_VIEW", and by `Props/C04Prov.lean` and `Props/C10Leader2.lean`.
-/
namespace LeanHelix.Net
open LeanHelix LeanHelix.Msg LeanHelix.Term

def HasProposal (n : Node) (blk : Block) (cs : List CMsg) : Prop :=
  ∃ h v ppm, n.store.getPP h v = some ppm ∧ ppm.block = some blk ∧ ppm.c.header.hash = commitHash cs
    ∧ cs ≠ [] ∧ ∀ c ∈ cs, c.header.height = h ∧ c.header.view = v ∧ c.header.hash = commitHash cs

structure Sent (n : Node) (outs : List Out) : Prop where
  prepared : ∀ pv, n.prepared = some pv → ∃ ppm, n.store.getPP n.cfg.height pv = some ppm
      ∧ C03.ckey (ownCommit n.cfg n.cfg.height pv ppm.c.header.hash) ∈ n.store.commits.map C03.ckey
      ∧ ∃ rs, Out.send rs (.commit (ownCommit n.cfg n.cfg.height pv ppm.c.header.hash)) ∈ outs
  newViews : ∀ rs nv, Out.send rs (.newView nv) ∈ outs → n.store.getPP n.cfg.height nv.header.view = some ⟨nv.pp, nv.block⟩
  preprepares : ∀ rs ppm, Out.send rs (.preprepare ppm) ∈ outs → n.store.getPP n.cfg.height ppm.c.header.view = some ppm
  commits : ∀ blk cs, Out.commit blk cs ∈ outs → HasProposal n blk cs
  /-- `NVOwn`: the shape `onElectedByViewChange` gives a NEW_VIEW -/
  nvShape : ∀ rs nv, Out.send rs (.newView nv) ∈ outs → NVOwn n.cfg nv

theorem sent_init (c : Cfg) : Sent { cfg := c } [] where
  prepared := by intro _ h; cases h
  newViews := by intro _ _ h; cases h
  preprepares := by intro _ _ h; cases h
  commits := by intro _ _ h; cases h
  nvShape := by intro _ _ h; cases h

theorem blk_commit_has_proposal {e : Event} {spi0 : List Spi} {a b : Node} {l : List Out} {g : List LEv} (hb : Blk e spi0 a b l g)
    {blk : Block} {cs : List CMsg} (hm : Out.commit blk cs ∈ l) : HasProposal b blk cs := by
  obtain ⟨h, v, hash, ppm, rfl, hcq, hg, hblk, hhash⟩ := blk_commit_out hb hm
  have hne := ne_nil_of_quorum hcq
  have hch := commitHash_getCommits _ _ _ _ hne
  exact ⟨h, v, ppm, getPP_of_prefix (blk_storeLe hb).pps hg, hblk, by rw [hch]; exact hhash, hne,
    fun c hc => by rw [hch]; exact (mem_getCommits.mp hc).2⟩

theorem blk_sent {e : Event} {spi0 : List Spi} {a b : Node} {l : List Out} {g : List LEv} {outs0 : List Out}
    (hb : Blk e spi0 a b l g) (h : Sent a outs0) : Sent b (outs0 ++ l) := by
  have hle := blk_storeLe hb
  have hcfg := C01Local.blk_cfg hb
  have hget : ∀ {h v p}, a.store.getPP h v = some p → b.store.getPP h v = some p := getPP_of_prefix hle.pps
  obtain ⟨hnv, hpp⟩ := blk_proposal_out hb
  refine ⟨?_, ?_, ?_, ?_, ?_⟩
  · -- the prepared view changes in `Blk.prepared` only, which logs and sends the own COMMIT
    have keep : b.prepared = a.prepared → ∀ pv, b.prepared = some pv → ∃ ppm, b.store.getPP b.cfg.height pv = some ppm
        ∧ C03.ckey (ownCommit b.cfg b.cfg.height pv ppm.c.header.hash) ∈ b.store.commits.map C03.ckey
        ∧ ∃ rs, Out.send rs (.commit (ownCommit b.cfg b.cfg.height pv ppm.c.header.hash)) ∈ outs0 ++ l := by
      intro hp pv hpv
      obtain ⟨ppm, hg, hk, rs, hs⟩ := h.prepared pv (hp ▸ hpv)
      rw [hcfg]
      exact ⟨ppm, hget hg, (hle.commits.map _).subset hk, rs, List.mem_append_left _ hs⟩
    cases hb with
    | quiet hq => exact keep hq.prepared
    | decide _ _ _ _ _ hq => exact keep hq.prepared
    | prepared v hash rcpt hv hnot hpp' hproof =>
      obtain ⟨ppm, hg, hh, _⟩ := hpp'
      intro pv hpv
      obtain rfl : v = pv := Option.some.inj hpv
      exact ⟨ppm, hget hg, hh ▸ (storeCommit_firstWins _ _).has_key, rcpt, hh ▸ List.mem_append_right _ List.mem_cons_self⟩
    | _ => exact keep rfl
  · intro rs nv hm
    rcases List.mem_append.mp hm with hm | hm
    · rw [hcfg]; exact hget (h.newViews rs nv hm)
    · exact (hnv rs nv hm).1
  · intro rs ppm hm
    rcases List.mem_append.mp hm with hm | hm
    · rw [hcfg]; exact hget (h.preprepares rs ppm hm)
    · exact hpp rs ppm hm
  · intro blk cs hm
    rcases List.mem_append.mp hm with hm | hm
    · obtain ⟨h', v, ppm, hg, r⟩ := h.commits blk cs hm
      exact ⟨h', v, ppm, hget hg, r⟩
    · exact blk_commit_has_proposal hb hm
  · intro rs nv hm
    rcases List.mem_append.mp hm with hm | hm
    · rw [hcfg]; exact h.nvShape rs nv hm
    · exact (hnv rs nv hm).2

theorem runs_sent {e : Event} {spi0 : List Spi} {w w' : Term.W} {g : List LEv} (hr : Runs e spi0 w w' g) :
    ∀ outs0, Sent w.n (outs0 ++ w.outs) → Sent w'.n (outs0 ++ w'.outs) := by
  induction hr with
  | refl => intro _ h; exact h
  | blk ho hb =>
    intro outs0 h
    rw [ho, ← List.append_assoc]
    exact blk_sent hb h
  | trans _ _ ih1 ih2 => intro outs0 h; exact ih2 outs0 (ih1 outs0 h)

variable {C : NetCfg}

theorem reach_sent {net : Net} (hr : Reach C net) (i : Nat) : Sent (net.node i) (net.outs i) :=
  reach_member (P := fun _ => Sent) (fun _ => sent_init _) (fun _ _ outs _ _ _ _ hruns _ h => runs_sent hruns outs (by simpa using h)) hr i

end LeanHelix.Net
