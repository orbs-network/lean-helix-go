import LeanHelix.Net.Reach
/-!
# The network model, part 8: an executable schedule runner, to exhibit reachable states

`sim` runs a schedule (member, event, SPI answers) with `Term.step`; `okStep` is a *decidable,
sufficient* condition for each step to be a step of the network model (`NStep`): the member is a
correct committee member, the event passes the filter, and — for PREPREPARE / PREPARE / COMMIT
deliveries — every verifying signature of a correct member in it matches something that member has
sent, or the whole message is one a correct member has sent.  `sim_reach`: a schedule whose steps are
all ok ends in a reachable state of the network with exactly the simulated node states and outputs;
`reach_of_sched`: the same from the initial state.  Used for the non-vacuity examples of the
`Props/C..Net` files.
-/
namespace LeanHelix.Net
open LeanHelix LeanHelix.Msg LeanHelix.Term LeanHelix.Spec
open LeanHelix.C01Local (lift)

variable {C : NetCfg}

/-! ## what a correct member has sent is in the history -/

theorem stmt_in_history (hwf : WF C) {net : Net} (hinv : NetInv C hwf net) {i : Nat} (hh : C.honest i = true)
    (hm : ∃ m ∈ C.ms, m.id = i) (hs : net.started i = true) {o : Out} (ho : o ∈ net.outs i) :
    (∀ v h, stmtOf o = some (.acc v h) → Ev.acc i v h ∈ net.H)
    ∧ (∀ v h, stmtOf o = some (.cmt v h) → Ev.com i v h ∈ net.H ∨ Ev.lcom i v h ∈ net.H) :=
  ⟨fun _ _ hst => (hinv.nodes i hh hm hs).stmt ho hst, fun _ _ hst => (hinv.nodes i hh hm hs).stmt ho hst⟩

/-! ## decidable sufficient conditions -/

def isMemberB (C : NetCfg) (i : Nat) : Bool := C.ms.any (fun m => m.id == i)

theorem isMemberB_spec {i : Nat} (h : isMemberB C i = true) : ∃ m ∈ C.ms, m.id = i :=
  isMember_spec (C.cfg i) i h

def hasStmt (outs : List Out) (s : Stmt) : Bool := outs.any (fun o => stmtOf o == some s)

theorem hasStmt_spec {outs : List Out} {s : Stmt} (h : hasStmt outs s = true) : ∃ o ∈ outs, stmtOf o = some s := by
  unfold hasStmt at h
  rw [List.any_eq_true] at h
  obtain ⟨o, ho, he⟩ := h
  exact ⟨o, ho, by simpa using he⟩

def admRefB (C : NetCfg) (started : Nat → Bool) (outs : Nat → List Out) (r : BlockRef) (s : SSig) : Bool :=
  !(r.inst == C.inst && r.height == C.height && s.ok && C.honest s.id)
  || (started s.id && isMemberB C s.id
      && (!(r.mtype == tPP || r.mtype == tP) || hasStmt (outs s.id) (.acc r.view r.hash))
      && (!(r.mtype == tC) || hasStmt (outs s.id) (.cmt r.view r.hash)))

theorem admRefB_sound (hwf : WF C) {net : Net} (hinv : NetInv C hwf net) {r : BlockRef} {s : SSig}
    (h : admRefB C net.started net.outs r s = true) : AdmRef C net.H r s := by
  intro h1 h2
  unfold admRefB at h
  simp only [Bool.or_eq_true, Bool.not_eq_true', Bool.and_eq_false_iff, Bool.and_eq_true,
    beq_eq_false_iff_ne, ne_eq] at h
  -- under a verifying signature of a correct member over this instance and height the guard is false
  refine ⟨fun ht ok hh => ?_, fun ht ok hh => ?_⟩ <;>
    (rcases h with (((h | h) | h) | h) | ⟨⟨⟨hst, hmem⟩, hacc⟩, hcm⟩
     · exact absurd h1 h
     · exact absurd h2 h
     · rw [ok] at h; cases h
     · rw [hh] at h; cases h
     have hni := hinv.nodes s.id hh (isMemberB_spec hmem) hst)
  · rcases hacc with hn | hacc
    · rcases ht with ht | ht <;> (rw [ht] at hn; simp at hn)
    · obtain ⟨o, ho, hso⟩ := hasStmt_spec hacc
      exact hni.stmt ho hso
  · rcases hcm with hn | hcm
    · rw [ht] at hn; simp at hn
    · obtain ⟨o, ho, hso⟩ := hasStmt_spec hcm
      exact hni.stmt ho hso

def gateB (c : Cfg) : Event → Bool
  | .start _ => false
  | .deliver m => msgInstT m == c.inst && msgHeightT m == c.height && msgSenderId m != c.me
      && (match m with
          | .viewChange x => (match x.block with | some b => b.hash != emptyBytes | none => true)
          | _ => true)
  | _ => true

def sentB (C : NetCfg) (started : Nat → Bool) (outs : Nat → List Out) (m : Message) : Bool :=
  C.ms.any (fun x => C.honest x.id && started x.id
    && (outs x.id).any (fun o => match o with | .send _ m' => decide (m' = m) | _ => false))

theorem sentB_sound (hwf : WF C) {net : Net} (hinv : NetInv C hwf net) {m : Message}
    (h : sentB C net.started net.outs m = true) : AdmMsg C net.H m := by
  unfold sentB at h
  rw [List.any_eq_true] at h
  obtain ⟨x, hx, hc⟩ := h
  simp only [Bool.and_eq_true, List.any_eq_true] at hc
  obtain ⟨⟨hh, hs⟩, o, ho, hm⟩ := hc
  cases o with
  | send rcpt m' => exact of_decide_eq_true hm ▸ (hinv.nodes x.id hh ⟨x, hx, rfl⟩ hs).sends rcpt m' ho
  | _ => cases hm

/-- sufficient only: a VIEW_CHANGE or NEW_VIEW passes if some correct member sent exactly it (`sentB`), forged
ones are rejected whatever they contain; forged PREPREPARE / PREPARE / COMMIT deliveries are decided by `admRefB` -/
def admB (C : NetCfg) (started : Nat → Bool) (outs : Nat → List Out) : Event → Bool
  | .deliver m => sentB C started outs m ||
      (match m with
       | .preprepare m => admRefB C started outs m.c.header m.c.sender
       | .prepare m => admRefB C started outs m.header m.sender
       | .commit m => admRefB C started outs m.header m.sender
       | _ => false)
  | .start _ => false
  | _ => true

structure SimState where
  node : Nat → Node
  started : Nat → Bool
  outs : Nat → List Out

def SimState.init (C : NetCfg) : SimState := ⟨fun i => { cfg := C.cfg i }, fun _ => false, fun _ => []⟩

abbrev SStep := Nat × Event × List Spi

def simStep (s : SimState) (x : SStep) : SimState :=
  let r := step (s.node x.1) x.2.1 x.2.2
  ⟨upd s.node x.1 r.1, upd s.started x.1 true, upd s.outs x.1 (s.outs x.1 ++ r.2)⟩

def okStep (C : NetCfg) (s : SimState) (x : SStep) : Bool :=
  C.honest x.1 && isMemberB C x.1 &&
    (match x.2.1 with
     | .start _ => !s.started x.1
     | e => s.started x.1 && gateB (C.cfg x.1) e && admB C s.started s.outs e)

def simOk (C : NetCfg) : SimState → List SStep → Bool
  | _, [] => true
  | s, x :: xs => okStep C s x && simOk C (simStep s x) xs

def sim (s : SimState) (xs : List SStep) : SimState := xs.foldl simStep s

def Agrees (net : Net) (s : SimState) : Prop := net.node = s.node ∧ net.started = s.started ∧ net.outs = s.outs

theorem gateB_sound {c : Cfg} {e : Event} (h : gateB c e = true) : Gate c e ∧ ∀ b, e ≠ .start b := by
  cases e with
  | start b => simp [gateB] at h
  | election _ _ => exact ⟨trivial, fun _ h => by cases h⟩
  | cancelOlder _ _ => exact ⟨trivial, fun _ h => by cases h⟩
  | deliver m =>
    refine ⟨?_, fun _ h => by cases h⟩
    simp only [gateB, Bool.and_eq_true, beq_iff_eq, bne_iff_ne, ne_eq] at h
    refine ⟨h.1.1.1, h.1.1.2, h.1.2, ?_⟩
    cases m with
    | viewChange x =>
      intro b hb
      have h2 := h.2
      simp only [hb, bne_iff_ne, ne_eq] at h2
      exact h2
    | preprepare x => trivial
    | prepare x => trivial
    | commit x => trivial
    | newView x => trivial

theorem admB_sound (hwf : WF C) {net : Net} (hinv : NetInv C hwf net) {e : Event}
    (h : admB C net.started net.outs e = true) : AdmEvent C net.H e := by
  cases e with
  | start b => trivial
  | election _ _ => trivial
  | cancelOlder _ _ => trivial
  | deliver m =>
    simp only [admB, Bool.or_eq_true] at h
    rcases h with h | h
    · exact sentB_sound hwf hinv h
    · cases m with
      | preprepare x => exact admRefB_sound hwf hinv h
      | prepare x => exact admRefB_sound hwf hinv h
      | commit x => exact admRefB_sound hwf hinv h
      | viewChange x => simp at h
      | newView x => simp at h

theorem sim_reach (hwf : WF C) (xs : List SStep) : ∀ (s : SimState) (net : Net), Reach C net → Agrees net s →
    simOk C s xs = true → ∃ net', Reach C net' ∧ Agrees net' (sim s xs) ∧ net'.trace = xs.reverse ++ net.trace := by
  induction xs with
  | nil => intro s net hr ha _; exact ⟨net, hr, ha, rfl⟩
  | cons x xs ih =>
    intro s net hr ha hok
    simp only [simOk, Bool.and_eq_true] at hok
    obtain ⟨hx, hrest⟩ := hok
    obtain ⟨i, e, spi⟩ := x
    obtain ⟨an, as, ao⟩ := ha
    unfold okStep at hx
    simp only [Bool.and_eq_true] at hx
    obtain ⟨⟨hh, hmem⟩, hev⟩ := hx
    have hmem' := isMemberB_spec hmem
    have hinv := reach_inv hwf hr
    obtain ⟨g, hstep⟩ := event_next hwf hr hh hmem' e spi (by
      cases e with
      | start b => exact .inl ⟨b, rfl, by rw [as]; simpa using hev⟩
      | _ =>
        simp only [Bool.and_eq_true] at hev
        obtain ⟨⟨hs, hg⟩, hadm⟩ := hev
        obtain ⟨hgate, hns⟩ := gateB_sound hg
        exact .inr ⟨as ▸ hs, hns, hgate, admB_sound hwf hinv (as ▸ ao ▸ hadm)⟩)
    obtain ⟨net'', hr'', ha'', ht''⟩ := ih (simStep s (i, e, spi)) _ (.step hr hstep)
      ⟨by simp only [simStep, an], by simp only [simStep, as], by simp only [simStep, ao, an]⟩ hrest
    refine ⟨net'', hr'', ha'', ?_⟩
    rw [ht'', List.reverse_cons, List.append_assoc]
    rfl

theorem agrees_init (C : NetCfg) : Agrees (Net.init C) (SimState.init C) := ⟨rfl, rfl, rfl⟩

theorem reach_of_sched (hwf : WF C) (xs : List SStep) (hok : simOk C (SimState.init C) xs = true) :
    ∃ net, Reach C net ∧ Agrees net (sim (SimState.init C) xs) ∧ net.trace = xs.reverse := by
  obtain ⟨net, hr, ha, ht⟩ := sim_reach hwf xs (SimState.init C) (Net.init C) .init (agrees_init C) hok
  exact ⟨net, hr, ha, ht.trans (List.append_nil _)⟩

end LeanHelix.Net
