import LeanHelix.Net.Blocks
/-!
# The network model, part 5: the delivered block commits to the certified hash

Consumer contract **A2**: `ValidateBlockProposal(block, hash)` answers nil only if the block commits to
the hash (`ValidateBlockCommitment`).  In the model the verdict is an SPI input; `SpiA2 e spi` says
that a step whose SPI answers begin with a positive verdict is delivering a proposal whose attached
block commits to its signed hash, and `TraceA2` that this holds for every step of the schedule.

Under `TraceA2`, every block a correct member has stored under a proposal, attached to a logged vote, or
handed to its commit callback commits to the hash it travels under (`reach_blocks`): for fresh proposals
by A2, for locked re-proposals because `handleNewView` / `handleViewChange` check the commitment against
the proven hash, for own proposals because the member signs the hash of the block its consumer returned.
The same walk over the atomic blocks gives what peers accept of a member's output (`OutsOK`).
-/
namespace LeanHelix.Net
open LeanHelix LeanHelix.Msg LeanHelix.Term LeanHelix.Spec
open LeanHelix.C01Local (GInv lift)

variable {C : NetCfg}

def evBlockOK : Event → Prop
  | .deliver (.preprepare m) => commitmentOk m.block m.c.header.hash = true
  | .deliver (.newView m) => commitmentOk m.block m.pp.header.hash = true
  | _ => True

/-- consumer contract A2 for one step -/
def SpiA2 (e : Event) (spi : List Spi) : Prop := ∀ cd rest, spi = Spi.verdict true cd :: rest → evBlockOK e

def TraceA2 (trace : List (Nat × Event × List Spi)) : Prop := ∀ t ∈ trace, SpiA2 t.2.1 t.2.2

def BlocksOK (n : Node) : Prop := ∀ ppm ∈ n.store.pps, ∀ b, ppm.block = some b → b.hash = ppm.c.header.hash

def VCBlocksOK (n : Node) : Prop :=
  ∀ m ∈ n.store.vcs, ∀ b p, m.block = some b → m.c.header.proof = some p → b.hash = p.pRef.hash

theorem commitmentOk_some {b : Block} {h : Nat} (hc : commitmentOk (some b) h = true) : b.hash = h := by
  simpa [commitmentOk] using hc

theorem BlocksOK.congr {a b : Node} (h : b.store.pps = a.store.pps) (ha : BlocksOK a) : BlocksOK b := by
  unfold BlocksOK; rw [h]; exact ha

theorem BlocksOK.storePP {a b : Node} (ppm : PPMsg) (h : BlocksOK a) (hs : b.store.pps = (a.store.storePP ppm).pps)
    (hb : ∀ b, ppm.block = some b → b.hash = ppm.c.header.hash) : BlocksOK b := by
  intro x hx bk hxb
  rcases mem_storePP (hs ▸ hx) with hx | rfl
  · exact h x hx bk hxb
  · exact hb bk hxb

/-! ## own votes, and the NEW_VIEWs a correct leader sends (C11 at the network level) -/

def OwnVotesOK (n : Node) : Prop := ∀ m ∈ n.store.vcs, m.c.sender = mySig n.cfg → C11.VoteChecked n m

structure Body (n : Node) : Prop where
  blocks : BlocksOK n
  vcblocks : VCBlocksOK n
  ownVotes : OwnVotesOK n

/-- the validators read a configuration through these three fields only, never `cfg.me` (`isViewChangeValid_sim`,
`validCertificate_sim`), so what is shown at the sender holds at every node of the term -/
def CfgSim (c d : Cfg) : Prop := c.members = d.members ∧ c.inst = d.inst ∧ c.height = d.height

/-- the NEW_VIEW is a valid certificate (`C07.ValidCertificate`: everything `handleNewView` checks
before adopting it) for every node of this term whose view is not above the NEW_VIEW's -/
def NVGood (c : Cfg) (nv : NVMsg) : Prop :=
  nv.pp.header.mtype = tPP ∧ nv.pp.sender = nv.sender
  ∧ ∀ peer : Node, CfgSim peer.cfg c → ¬ peer.view > nv.header.view → C07.ValidCertificate peer nv

/-- the certificate handed to the commit callback: provided the block has this term's height (the
other half of the consumer contract A2), the block proof generated from the COMMITs passes strict
`ValidateBlockConsensus` (the C02 model) of every node with this instance id and committee -/
def CertOK (c : Cfg) (blk : Block) (cs : List CMsg) : Prop :=
  blk.height = c.height →
    ∃ p, BlockProof.generate cs true = some p ∧
      BlockProof.validate ⟨false, some blk, some p, c.inst, c.members, false⟩ = .ok

/-- the VIEW_CHANGE passes everything `handleViewChange` checks before logging it (`C11.VoteChecked`), at
every node of this term -/
def VoteGood (c : Cfg) (vc : VCMsg) : Prop := ∀ peer : Node, CfgSim peer.cfg c → C11.VoteChecked peer vc

def OutsOK (c : Cfg) (l : List Out) : Prop :=
  (∀ blk cs, Out.commit blk cs ∈ l → blk.hash = commitHash cs)
  ∧ (∀ rs nv, Out.send rs (.newView nv) ∈ l → NVGood c nv)
  ∧ (∀ blk cs, Out.commit blk cs ∈ l → CertOK c blk cs)
  ∧ (∀ rs vc, Out.send rs (.viewChange vc) ∈ l → VoteGood c vc)

theorem OutsOK.hash {c : Cfg} {l : List Out} (h : OutsOK c l) {blk : Block} {cs : List CMsg} (hm : Out.commit blk cs ∈ l) :
    blk.hash = commitHash cs := h.1 blk cs hm
theorem OutsOK.newView {c : Cfg} {l : List Out} (h : OutsOK c l) {rs : List Nat} {nv : NVMsg}
    (hm : Out.send rs (.newView nv) ∈ l) : NVGood c nv := h.2.1 rs nv hm
theorem OutsOK.cert {c : Cfg} {l : List Out} (h : OutsOK c l) {blk : Block} {cs : List CMsg} (hm : Out.commit blk cs ∈ l) :
    CertOK c blk cs := h.2.2.1 blk cs hm
theorem OutsOK.vote {c : Cfg} {l : List Out} (h : OutsOK c l) {rs : List Nat} {vc : VCMsg}
    (hm : Out.send rs (.viewChange vc) ∈ l) : VoteGood c vc := h.2.2.2 rs vc hm

theorem outsOK_nil (c : Cfg) : OutsOK c [] := by
  refine ⟨?_, ?_, ?_, ?_⟩
  · intro _ _ h; cases h
  · intro _ _ h; cases h
  · intro _ _ h; cases h
  · intro _ _ h; cases h

theorem outsOK_append {c : Cfg} {l1 l2 : List Out} (h1 : OutsOK c l1) (h2 : OutsOK c l2) : OutsOK c (l1 ++ l2) :=
  ⟨fun blk cs hm => (List.mem_append.mp hm).elim (h1.1 blk cs) (h2.1 blk cs),
   fun rs nv hm => (List.mem_append.mp hm).elim (h1.2.1 rs nv) (h2.2.1 rs nv),
   fun blk cs hm => (List.mem_append.mp hm).elim (h1.2.2.1 blk cs) (h2.2.2.1 blk cs),
   fun rs vc hm => (List.mem_append.mp hm).elim (h1.2.2.2 rs vc) (h2.2.2.2 rs vc)⟩

theorem cfgSim_eq {c d : Cfg} (h : CfgSim c d) : c = { d with me := c.me } := by
  obtain ⟨h1, h2, h3⟩ := h
  cases c; cases d
  simp only at h1 h2 h3
  simp [h1, h2, h3]

theorem isViewChangeValid_sim (p q : Node) (h : CfgSim p.cfg q.cfg) (vc : VCContent) :
    isViewChangeValid p vc = isViewChangeValid q vc := by
  have := cfgSim_eq h
  unfold isViewChangeValid
  rw [this]
  rfl

theorem validCertificate_sim {p q : Node} (h : CfgSim p.cfg q.cfg) (hv : p.view = q.view) (nv : NVMsg)
    (hq : C07.ValidCertificate q nv) : C07.ValidCertificate p nv := by
  have he := cfgSim_eq h
  obtain ⟨a1, a2, a3, a4, a5, a6, a7, a8, a9, a10, a11⟩ := hq
  refine ⟨a1, by rw [hv]; exact a2, a3, ?_, ?_, ?_, a7, a8, a9, by rw [h.2.1]; exact a10, a11⟩
  · rw [he]; exact a4
  · rw [he]; exact a5
  · intro vc hvc
    obtain ⟨b1, b2, b3⟩ := a6 vc hvc
    exact ⟨b1, b2, by rw [isViewChangeValid_sim p q h]; exact b3⟩

theorem ownVote_eq (n : Node) : ownVote n = C09.voteOnTimeout n := ownVote_eq_voteOnTimeout n

theorem isMember_of_mem (C : NetCfg) (i : Nat) (hm : ∃ m ∈ C.ms, m.id = i) : isMember (C.cfg i) (C.cfg i).me = true :=
  (isMember_iff _ _).mpr hm

/-- a quorum among the logged COMMITs of (h, v, hash) is not empty, so `h` is the term's height -/
theorem commits_height {a : Node} (hcl : LogClean a) {h v hash : Nat}
    (hq : isQuorum a.cfg ((a.store.getCommits h v hash).map (·.sender.id)) = true) : h = a.cfg.height := by
  obtain ⟨c, hc⟩ := quorum_mem hq
  obtain ⟨hin, hh, _⟩ := mem_getCommits.mp hc
  exact hh ▸ (hcl.commits c hin).2

theorem vcs_height {a : Node} (hcl : LogClean a) {h v : Nat}
    (hq : isQuorum a.cfg ((a.store.getVCs h v).map (·.c.sender.id)) = true) : h = a.cfg.height := by
  obtain ⟨m, hm⟩ := quorum_mem hq
  obtain ⟨hin, hh, _⟩ := mem_getVCs.mp hm
  exact hh ▸ (hcl.vcs m hin).2

theorem blk_blocks {e : Event} {spi0 : List Spi} {i : Nat} {a b : Node} {l : List Out} {g : List LEv} {T : List LEv} {H : List Ev}
    (hb : Blk e spi0 a b l g) (hgate : Gate (C.cfg i) e) (hA2 : SpiA2 e spi0)
    (hc : Core C H i a T) (hub : Univ b) (hbo : BlocksOK a) (hvo : VCBlocksOK a) :
    BlocksOK b ∧ VCBlocksOK b ∧ ∀ blk cs, Out.commit blk cs ∈ l → blk.hash = commitHash cs := by
  refine ⟨?_, ?_, fun blk cs hm => ?_⟩
  · -- proposals are stored by `accept` and `propose` only
    cases hb with
    | quiet _ hs _ => exact hbo.congr (by rw [hs])
    | decide _ _ _ _ _ _ hs => exact hbo.congr (by rw [hs])
    | log op he =>
      refine hbo.congr (show (a.store.apply op).pps = _ from ?_)
      cases op with
      | pp m => exact absurd he evOp_ne_pp
      | prepare m => exact storePrepare_pps _ _
      | commit m => exact storeCommit_pps _ _
      | vc m => exact storeVC_pps _ _
    | prepared => exact hbo.congr (storeCommit_pps _ _)
    | late => exact hbo
    | voteSend => exact hbo
    | voteStore vc => exact hbo.congr (storeVC_pps _ _)
    | accept ppm f rcpt hh hv' hnone hnl hlock hsrc hval =>
      refine hbo.storePP ppm (storePrepare_pps _ _) fun bk hbk => ?_
      -- a fresh proposal is covered by A2, a locked one by the commitment check of `handleNewView`
      have fresh : (∃ cd rest, spi0 = Spi.verdict true cd :: rest) → (e = .deliver (.preprepare ppm)
          ∨ ∃ nvm, e = .deliver (.newView nvm) ∧ ppm = ⟨nvm.pp, nvm.block⟩) → bk.hash = ppm.c.header.hash := by
        rintro ⟨cd, rest, hspi⟩ (rfl | ⟨nvm, rfl, rfl⟩) <;>
          exact commitmentOk_some (hbk ▸ hA2 cd rest hspi)
      rcases hsrc with ⟨he, hf⟩ | ⟨nvm, he, hppm, hf, hchk⟩
      · exact fresh (hval (.inl hf)) (.inl he)
      · cases hlv : latestVote nvm.header.votes with
        | none => exact fresh (hval (.inr ⟨nvm, he, hlv⟩)) (.inr ⟨nvm, he, hppm⟩)
        | some lv =>
          obtain ⟨_, h2, h3⟩ := (lockOk_iff _ nvm).mp hchk.2.2.2.2 lv hlv
          subst hppm
          rw [show nvm.block = some bk from hbk] at h2
          exact (commitmentOk_some h2).trans h3.symm
    | propose ppm f o hh hv' hnone hlnv hf ho hown hsrc hreq hblk hmsg =>
      refine hbo.storePP ppm rfl fun bk hbk => ?_
      -- the member signs the hash of the block its consumer returned, or re-proposes a logged vote's block
      obtain ⟨b', hb', hcase⟩ := hblk
      obtain rfl : b' = bk := Option.some.inj (hb' ▸ hbk)
      rcases hcase with h1 | ⟨h', hsome⟩
      · exact h1
      · rcases C07.latestBlock_latestVote (vcs := a.store.getVCs h' a.view) (fun m hm => hc.vcb m (mem_getVCs.mp hm).1) with
          ⟨_, hn⟩ | ⟨m, hm, b0, p0, hmb, hp, _, hl⟩
        · exact absurd (hn.symm.trans hsome) nofun
        · obtain ⟨rfl, hh⟩ := Prod.mk.inj (Option.some.inj (hl.symm.trans hsome))
          exact hh ▸ hvo m (mem_getVCs.mp hm).1 b0 p0 hmb hp
  · intro x hx bk p hxb hxp
    rcases blk_vcs hb hx with hx | ⟨he, rfl⟩ | ⟨rfl, _⟩
    · exact hvo x hx bk p hxb hxp
    · -- a delivered vote passed `handleViewChange`: the block commits to the hash of a valid proof
      obtain ⟨h1, _, h3⟩ := logged_vote hc.cfg he hgate hub.vcs hx
      have hcm := h3 (by rw [hxb]; rfl)
      rw [hxb, hxp] at hcm
      obtain ⟨_, _, _, _, _, s6⟩ := isViewChangeValid_spec _ x.c h1
      rw [hxp] at s6
      rw [commitmentOk_some hcm, validatePreparedProof_hash _ _ _ p s6]; rfl
    · -- the own vote carries the block of the proposal its proof certifies
      obtain ⟨pv, ppm, _, hsb, h⟩ := (own_vote hc.ginv hc.prepBlock).2 p hxp
      rw [h.phash]; exact hbo ppm (getPP_spec h.getPP).1 bk (hsb ▸ hxb)
  · obtain ⟨h, v, hash, ppm, rfl, hcq, hg, hbk, hh⟩ := blk_commit_out hb hm
    rw [commitHash_of_quorum hcq, hbo ppm (getPP_spec hg).1 blk hbk, hh]

theorem ownVote_checked {i : Nat} {a : Node} {T : List LEv} {H : List Ev} (hmem : ∃ m ∈ C.ms, m.id = i)
    (hc : Core C H i a T) (hua : Univ a) (hbo : BlocksOK a) (hpv : ∀ pv, a.prepared = some pv → pv < a.view) :
    C11.VoteChecked a (ownVote a) := by
  obtain ⟨hvb, hpay⟩ := own_vote hc.ginv hc.prepBlock
  have hvalid : isViewChangeValid a (C09.voteOnTimeout a).c = true :=
    C11.own_vote_is_valid_for_peers a a rfl (by rw [hc.cfg]; exact isMember_of_mem C i hmem) hua.prepares hua.proposals
      (fun pv hpr => ⟨hpv pv hpr, fun pm hpm hvw hs => by have := hua.ownNL pm hpm hs; rw [hvw] at this; exact this⟩)
      (fun ppm hm => (hua.clean.pps ppm hm).1) (fun pm hm => (hua.clean.prepares pm hm).1)
  refine ⟨ownVote_eq a ▸ hvalid, ?_, fun hsome => ?_⟩
  · rintro ⟨h1, h2⟩
    have h2' : (voteProof a).isSome = true := h2
    rw [← hvb, show voteBlock a = none from Option.isNone_iff_eq_none.mp h1] at h2'
    cases h2'
  · -- the attached block is the block of the proposal the proof certifies, which commits to its hash
    have hsome : (voteBlock a).isSome = true := hsome
    show commitmentOk (voteBlock a) (proofHash (voteProof a)) = true
    cases hp : voteProof a with
    | none => rw [hvb, hp] at hsome; cases hsome
    | some p =>
      obtain ⟨pv, ppm, _, hsb, h⟩ := hpay p hp
      cases hbb : voteBlock a with
      | none => rw [hbb] at hsome; cases hsome
      | some bk =>
        simp only [commitmentOk, proofHash, beq_iff_eq]
        rw [h.hash]; exact hbo ppm (getPP_spec h.getPP).1 bk (by rw [← hsb, hbb])

theorem blk_votes (hwf : WF C) {e : Event} {spi0 : List Spi} {i : Nat} {a b : Node} {l : List Out} {g : List LEv} {T : List LEv} {H : List Ev}
    (hb : Blk e spi0 a b l g) (hgate : Gate (C.cfg i) e) (hmem : ∃ m ∈ C.ms, m.id = i)
    (hc : Core C H i a T) (hua : Univ a) (hbo : BlocksOK a) (hov : OwnVotesOK a) :
    OwnVotesOK b ∧ (∀ rs nv, Out.send rs (.newView nv) ∈ l → NVGood a.cfg nv)
      ∧ ∀ rs vc, Out.send rs (.viewChange vc) ∈ l → VoteGood a.cfg vc := by
  have hcfg := C01Local.blk_cfg hb
  refine ⟨fun x hx hsig => voteChecked_cfg hcfg ?_, fun rs nv hm => ?_, fun rs vc' hm peer hsim => ?_⟩
  · -- the logged votes under the member's own name: those before, and the vote it builds on timeout
    rw [hcfg] at hsig
    rcases blk_vcs hb hx with hx | ⟨he, _⟩ | ⟨rfl, hpv⟩
    · exact hov x hx hsig
    · exact absurd hsig (logged_vote_ne hc.cfg he hgate)
    · exact ownVote_checked hmem hc hua hbo hpv
  rotate_left
  · -- only `Blk.voteSend` sends a VIEW_CHANGE: that vote
    cases hb with
    | quiet _ _ hl => have := hl _ hm; simp [stmtOf] at this
    | propose ppm f o hh hv' hnone hlnv hf ho hown hsrc hreq hblk hmsg =>
      rw [List.mem_singleton] at hm
      rcases hmsg with ⟨rcpt, ho'⟩ | ⟨rcpt, nvm, h, ho', _⟩ <;> (rw [ho'] at hm; cases hm)
    | voteSend vc rcpt hv' hp hpv hown hvc =>
      obtain ⟨_, rfl⟩ : rs = rcpt ∧ vc' = vc := by simpa using hm
      obtain ⟨c1, c2, c3⟩ := ownVote_checked hmem hc hua hbo hpv
      exact hvc ▸ ⟨by rw [isViewChangeValid_sim peer a hsim]; exact c1, c2, c3⟩
    | _ => simp at hm
  -- only `Blk.propose` sends a NEW_VIEW
  cases hb with
  | quiet _ _ hl => have := hl _ hm; simp [stmtOf] at this
  | propose ppm f o hh hv' hnone hlnv hf ho hown hsrc hreq hblk hmsg =>
    rw [List.mem_singleton] at hm
    rcases hmsg with ⟨rcpt, ho'⟩ | ⟨rcpt, nvm, h, ho', hpp, hvotes, hexact, hlead, hq, hsel⟩
    · rw [ho'] at hm; cases hm
    obtain ⟨_, rfl⟩ : rs = rcpt ∧ nv = nvm := by simpa [ho'] using hm
    -- the votes counted are those of this term's height, each checked when it was logged or the member's own
    obtain rfl := vcs_height hua.clean hq
    have hchk : ∀ m ∈ a.store.getVCs a.cfg.height a.view, m ∈ a.store.vcs ∧ C11.VoteChecked a m := fun m hm =>
      have hm' := (mem_getVCs.mp hm).1
      ⟨hm', (hua.vcs.auth m hm').elim id (hov m hm')⟩
    refine ⟨by rw [hexact]; exact hown.2.2, by rw [hexact]; exact hown.1, fun peer hsim hview => ?_⟩
    obtain ⟨bk, hbk, _⟩ := hblk
    have hex : C11.NewViewExact a.cfg a.view (a.store.getVCs a.cfg.height a.view) o := by
      intro rs' nv' he'
      obtain ⟨_, rfl⟩ : rs' = rcpt ∧ nv' = nv := by simpa [ho'] using he'.symm
      refine ⟨bk, ppm.c.header.hash, ?_, ?_⟩
      · rw [hexact, hbk]
        have : ppm.c = ⟨mkRef a.cfg tPP a.view ppm.c.header.hash, mySig a.cfg⟩ := by
          obtain ⟨⟨⟨t, ins, ht, vw, hs⟩, sd⟩, blk⟩ := ppm
          simp only at hown hh hv' ⊢
          obtain ⟨o1, o2, o3⟩ := hown
          subst o1 o2 o3 hh hv'
          rfl
        rw [← this]
      · cases hl : latestBlockFromVCs (a.store.getVCs a.cfg.height a.view) with
        | none => rw [hl] at hsel; exact hsel bk hbk
        | some x =>
          rw [hl, hbk] at hsel
          exact ⟨Option.some.inj hsel.1, hsel.2⟩
    have hcert : C07.ValidCertificate ({ peer with cfg := a.cfg } : Node) nv :=
      C11.elected_newview_is_valid_certificate a.cfg a.view _ _ o hex rcpt nv ho' rfl (by rw [hexact] at hview; exact hview) hlead hq
        (fun m hm => ⟨(mem_getVCs.mp hm).2.1, (mem_getVCs.mp hm).2.2,
          by rw [Term.isViewChangeValid_cfg (a := ({ peer with cfg := a.cfg } : Node)) (b := a) rfl]; exact (hchk m hm).2.1⟩)
        (by have := getVCs_nodup a hua.vcs a.cfg.height a.view; rwa [List.map_map] at this)
        (fun m hm => ⟨hc.vcb m (hchk m hm).1, (hchk m hm).2.2.2⟩)
    exact validCertificate_sim (q := { peer with cfg := a.cfg }) hsim rfl nv hcert
  | _ => simp at hm

theorem blk_cert {e : Event} {spi0 : List Spi} {a b : Node} {l : List Out} {g : List LEv}
    (hb : Blk e spi0 a b l g) (hua : Univ a) (hbo : BlocksOK a) :
    ∀ blk cs, Out.commit blk cs ∈ l → CertOK a.cfg blk cs := by
  intro blk cs hm hheight
  obtain ⟨h, v, hash, ppm, rfl, hcq, hg, hbk, hh⟩ := blk_commit_out hb hm
  exact C03.stored_quorum_validates a h v hash blk hua.commits hcq
    (fun cm hm => (hua.clean.commits cm hm).1)
    ⟨by rw [hbo ppm (getPP_spec hg).1 blk hbk, hh], by rw [hheight, commits_height hua.clean hcq]⟩

theorem blk_body (hwf : WF C) {e : Event} {spi0 : List Spi} {i : Nat} {a b : Node} {l : List Out} {g : List LEv} {T : List LEv} {H : List Ev}
    (hb : Blk e spi0 a b l g) (hgate : Gate (C.cfg i) e) (hA2 : SpiA2 e spi0) (hmem : ∃ m ∈ C.ms, m.id = i)
    (hc : Core C H i a T) (hua : Univ a) (hub : Univ b) (hbody : Body a) :
    Body b ∧ OutsOK a.cfg l := by
  obtain ⟨b1, b2, b3⟩ := blk_blocks hb hgate hA2 hc hub hbody.blocks hbody.vcblocks
  obtain ⟨v1, v2, v3⟩ := blk_votes hwf hb hgate hmem hc hua hbody.blocks hbody.ownVotes
  exact ⟨⟨b1, b2, v1⟩, b3, v2, blk_cert hb hua hbody.blocks, v3⟩

end LeanHelix.Net
