import LeanHelix.Net.Certs
/-!
# The network model, part 3: N correct nodes, an adversary, and the global history — the vocabulary

This file holds what a step is stated with: who owns a statement of the history, the gate `Gate`, and the log
invariants `Univ` every correct member keeps.

`Net` (defined with its step relation `NStep` in `Net/Reach.lean`) is the state of one height of one
instance: the term-model state of every member (only the correct members' states matter), what each
of them has emitted, and the ghost history `H` of the statements correct members have made
(`Spec.Ev`, newest first).  A step lets one correct member handle one event of the term model
(`Term.step`: start, any delivered message, election trigger, cancellation — with any SPI answers),
provided

* `Gate`: the event is one the worker's filter lets through (this instance, this height, not from this
  node — established for the worker model in `C08Worker` / `C17`), and a VIEW_CHANGE's attached block
  does not have the empty hash (SPI contract: no block commits to the empty hash);
* `AdmEvent`: every verifying signature of a correct member inside the delivered message, over a
  statement of this instance and height, matches a statement that member has made (`Net/Adm.lean`).

Delivering *any* such message at *any* time to *any* correct member covers loss, duplication,
reordering, delay, replay, equivocation and arbitrary constructions by Byzantine members and
outsiders.  The ghost history is extended with the statements of the atomic blocks of the step
(`Lemmas/TermRuns.lean`).
-/
namespace LeanHelix.Net
open LeanHelix LeanHelix.Msg LeanHelix.Term LeanHelix.Spec

variable (C : NetCfg)

/-! ## owners of statements -/

def evOwner : Ev → Nat
  | .acc n _ _ => n
  | .com n _ _ => n
  | .lcom n _ _ => n
  | .vote n _ _ => n
  | .dec n _ => n

def mine (i : Nat) (e : Ev) : Bool := evOwner e == i

theorem evOwner_lift (i : Nat) (x : LEv) : evOwner (C01Local.lift i x) = i := by
  cases x <;> rfl

theorem mine_lift (i : Nat) (x : LEv) : mine i (C01Local.lift i x) = true := by
  unfold mine; rw [evOwner_lift]; exact beq_self_eq_true i

theorem mine_lift_ne {i j : Nat} (h : i ≠ j) (x : LEv) : mine j (C01Local.lift i x) = false := by
  unfold mine; rw [evOwner_lift]; simpa using h

theorem lift_inj_acc {i : Nat} {x : LEv} {v h : Nat} (e : C01Local.lift i x = Ev.acc i v h) : ∃ f, x = .acc v h f := by
  cases x <;> simp [C01Local.lift] at e
  exact ⟨_, by rw [e.1, e.2]⟩

theorem lift_inj_com {i : Nat} {x : LEv} {v h : Nat} (e : C01Local.lift i x = Ev.com i v h) : x = .com v h := by
  cases x <;> simp [C01Local.lift] at e
  rw [e.1, e.2]

theorem lift_inj_vote {i : Nat} {x : LEv} {v : Nat} {pf : Option (Nat × Nat)} (e : C01Local.lift i x = Ev.vote i v pf) :
    ∃ s, x = .vote v pf s := by
  cases x <;> simp [C01Local.lift] at e
  exact ⟨_, by rw [e.1, e.2]⟩

theorem lift_inj_dec {i : Nat} {x : LEv} {h : Nat} (e : C01Local.lift i x = Ev.dec i h) : x = .dec h := by
  cases x <;> simp [C01Local.lift] at e
  rw [e]

section sees
variable {i : Nat} {H : List Ev} {T : List LEv} (hs : H.filter (mine i) = T.map (C01Local.lift i))
include hs

theorem mem_H_of_T {x : LEv} (hx : x ∈ T) : C01Local.lift i x ∈ H := by
  have : C01Local.lift i x ∈ T.map (C01Local.lift i) := List.mem_map.mpr ⟨x, hx, rfl⟩
  rw [← hs, List.mem_filter] at this
  exact this.1

theorem mem_T_of_H {e : Ev} (he : e ∈ H) (ho : evOwner e = i) : ∃ x ∈ T, C01Local.lift i x = e := by
  have : e ∈ H.filter (mine i) := by
    rw [List.mem_filter]; exact ⟨he, by unfold mine; rw [ho]; exact beq_self_eq_true i⟩
  rw [hs, List.mem_map] at this
  exact this

theorem sees_of_filter : C01Local.Sees i H T where
  acc := by
    intro v h
    constructor
    · intro hm
      obtain ⟨x, hx, e⟩ := mem_T_of_H hs hm rfl
      obtain ⟨f, rfl⟩ := lift_inj_acc e
      exact ⟨f, hx⟩
    · intro ⟨f, hf⟩
      exact mem_H_of_T hs hf
  vote := by
    intro v pf hm
    obtain ⟨x, hx, e⟩ := mem_T_of_H hs hm rfl
    obtain ⟨s, rfl⟩ := lift_inj_vote e
    exact ⟨s, hx⟩
  com := by
    intro v h
    constructor
    · intro hm
      obtain ⟨x, hx, e⟩ := mem_T_of_H hs hm rfl
      rw [lift_inj_com e] at hx
      exact hx
    · intro hm
      exact mem_H_of_T hs hm

end sees

/-! ## what the worker lets through -/

def msgSenderId : Message → Nat
  | .preprepare m => m.c.sender.id
  | .prepare m => m.sender.id
  | .commit m => m.sender.id
  | .viewChange m => m.c.sender.id
  | .newView m => m.sender.id

def noEmptyBlock : Message → Prop
  | .viewChange m => ∀ b, m.block = some b → b.hash ≠ emptyBytes
  | _ => True

def Gate (c : Cfg) : Event → Prop
  | .start _ => True
  | .deliver m => msgInstT m = c.inst ∧ msgHeightT m = c.height ∧ msgSenderId m ≠ c.me ∧ noEmptyBlock m
  | _ => True

theorem eventLocal_of_gate (n : Node) (e : Event) (h : Gate n.cfg e) (hns : ∀ c, e ≠ .start c) : EventLocal n e := by
  cases e with
  | start c => exact absurd rfl (hns c)
  | election _ _ => trivial
  | cancelOlder _ _ => trivial
  | deliver m =>
    cases m with
    | preprepare x => exact ⟨h.2.1, h.2.2.1⟩
    | prepare x => exact h.2.1
    | commit x => trivial
    | viewChange x => trivial
    | newView x => exact ⟨h.2.1, h.2.2.1⟩

theorem eventClean_of_gate (n : Node) (e : Event) (h : Gate n.cfg e) : EventClean n e := by
  cases e with
  | start c => trivial
  | election _ _ => trivial
  | cancelOlder _ _ => trivial
  | deliver m => exact ⟨h.1, h.2.1⟩

/-! ## the universal log invariants, and their inheritance by earlier logs -/

structure Univ (n : Node) : Prop where
  commits : C03.CommitsOK n
  prepares : C11.PreparesOK n
  proposals : C04.ProposalsOK n
  vcs : C11.VCsOK n
  clean : LogClean n
  ownNL : OwnPreparesNL n

theorem storeVC_prefix (s : Store) (m : VCMsg) : s.vcs <+: (s.storeVC m).vcs := (storeVC_firstWins s m).pfx
theorem storePP_vcs (s : Store) (m : PPMsg) : (s.storePP m).vcs = s.vcs := Term.storePP_vcs s m
theorem storePrepare_vcs (s : Store) (m : PMsg) : (s.storePrepare m).vcs = s.vcs := Term.storePrepare_vcs s m
theorem storeCommit_vcs (s : Store) (m : CMsg) : (s.storeCommit m).vcs = s.vcs := Term.storeCommit_vcs s m

theorem nodup_map_prefix {α β} (f : α → β) {l1 l2 : List α} (h : l1 <+: l2) (hn : (l2.map f).Nodup) : (l1.map f).Nodup :=
  List.Nodup.sublist (List.Sublist.map f h.sublist) hn

theorem voteChecked_cfg {a b : Node} (hc : b.cfg = a.cfg) {m : VCMsg} (h : C11.VoteChecked a m) : C11.VoteChecked b m := by
  unfold C11.VoteChecked at h ⊢
  rwa [Term.isViewChangeValid_cfg hc]

/-- `Univ` is established per event (`univ_step`); the atomic blocks inside an event get it for the logs in
between from the log at the end of the event -/
theorem Univ.sub {a fin : Node} (hc : a.cfg = fin.cfg) (hs : StoreLe a.store fin.store) (h : Univ fin) : Univ a where
  commits := ⟨by intro cm hcm; rw [hc]; exact h.commits.auth cm (hs.commits.subset hcm), nodup_map_prefix _ hs.commits h.commits.keys⟩
  prepares := ⟨by intro pm hpm; rw [hc]; exact h.prepares.auth pm (hs.prepares.subset hpm), nodup_map_prefix _ hs.prepares h.prepares.keys⟩
  proposals := by intro ppm hp; rw [hc]; exact h.proposals ppm (hs.pps.subset hp)
  vcs := ⟨by
    intro m hm
    rcases h.vcs.auth m (hs.vcs.subset hm) with hv | hv
    · exact .inl (voteChecked_cfg hc hv)
    · right; rw [hc]; exact hv, nodup_map_prefix _ hs.vcs h.vcs.keys⟩
  clean := ⟨by intro m hm; rw [hc]; exact h.clean.pps m (hs.pps.subset hm), by intro m hm; rw [hc]; exact h.clean.prepares m (hs.prepares.subset hm),
    by intro m hm; rw [hc]; exact h.clean.commits m (hs.commits.subset hm), by intro m hm; rw [hc]; exact h.clean.vcs m (hs.vcs.subset hm)⟩
  ownNL := by intro pm hpm hsig; rw [hc] at hsig ⊢; exact h.ownNL pm (hs.prepares.subset hpm) hsig

/-- own PREPAREs are only ever logged for views the node does not lead (messages claiming the node's
own id are dropped by the gate) -/
theorem step_evN (n : Node) (e : Event) (spi : List Spi) (hg : Gate n.cfg e) : Evolves OwnNL n (step n e spi).1 := by
  rw [step_eq]
  refine (stepW_acts { n := n, spi := spi } e).evolvesNL ?_
  cases e with
  | deliver m => cases m <;> first | exact hg.2.2.1 | trivial
  | _ => trivial

end LeanHelix.Net
