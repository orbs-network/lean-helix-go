import LeanHelix.Model.Timeout
/-!
# C19 — Election timer (formula part): exponential, monotone, saturating timeout

Theorems about `Timeout.calcTimeout base view` (model of `CalcTimeout`, `time.Duration` = int64 ns)
for every positive base that fits an int64 and every view (any `Nat`).
The trigger discipline (arm / stop / expire / deliver) is in `Props/C19Trigger` (Trigger machine).
-/
namespace LeanHelix.C19
open LeanHelix.Timeout

private theorem two_pow_pos (v : Nat) : (0 : Int) < 2 ^ v := Int.pow_pos (by decide)

theorem two_pow_mono {v v' : Nat} (h : v ≤ v') : (2:Int) ^ v ≤ 2 ^ v' := by
  exact_mod_cast Nat.pow_le_pow_right (by decide : 2 > 0) h

/-- **`CalcTimeout` returns min(minTimeout · 2^view, MaxInt64), for every positive minTimeout and every view.**
The theorems after it (exact while it fits, saturating, positive, monotone, doubling) are read off this one. -/
theorem timeout_eq_min (base : Int) (view : Nat) (hb : 0 < base) :
    calcTimeout base view = min (base * 2 ^ view) maxInt64 := by
  have hp := two_pow_pos view
  unfold calcTimeout
  rw [if_neg (by omega), Int.mul_comm base]
  split
  · next hv =>
    -- 2^63 ≤ 2^view ≤ 2^view * base
    have h1 : (2:Int) ^ 63 ≤ 2 ^ view := two_pow_mono hv
    have h2 : 2 ^ view * 1 ≤ 2 ^ view * base := Int.mul_le_mul_of_nonneg_left (by omega) (by omega)
    have : (2:Int)^63 = 9223372036854775808 := by decide
    unfold maxInt64; omega
  · simp only [gt_iff_lt, Int.ediv_lt_iff_lt_mul hb]
    split <;> omega

theorem timeout_exact_when_fits (base : Int) (view : Nat) (hb : 0 < base)
    (hfit : base * 2 ^ view ≤ maxInt64) : calcTimeout base view = base * 2 ^ view := by
  rw [timeout_eq_min base view hb]; omega

theorem timeout_saturates (base : Int) (view : Nat) (hb : 0 < base)
    (hbig : maxInt64 < base * 2 ^ view) : calcTimeout base view = maxInt64 := by
  rw [timeout_eq_min base view hb]; omega

theorem timeout_pos (base : Int) (view : Nat) (hb : 0 < base) : 0 < calcTimeout base view := by
  rw [timeout_eq_min base view hb]
  have : 0 < base * 2 ^ view := Int.mul_pos hb (two_pow_pos view)
  have : (0:Int) < maxInt64 := by decide
  omega

theorem timeout_mono (base : Int) (v v' : Nat) (hb : 0 < base) (hvv : v ≤ v') :
    calcTimeout base v ≤ calcTimeout base v' := by
  rw [timeout_eq_min base v hb, timeout_eq_min base v' hb]
  have : base * 2 ^ v ≤ base * 2 ^ v' := Int.mul_le_mul_of_nonneg_left (two_pow_mono hvv) (by omega)
  omega

theorem timeout_doubles (base : Int) (v : Nat) (hb : 0 < base)
    (hfit : base * 2 ^ (v + 1) ≤ maxInt64) : calcTimeout base (v + 1) = 2 * calcTimeout base v := by
  have : 0 < base * 2 ^ v := Int.mul_pos hb (two_pow_pos v)
  rw [timeout_eq_min base (v + 1) hb, timeout_eq_min base v hb]
  rw [Int.pow_succ, ← Int.mul_assoc] at hfit ⊢
  omega

/-! ## non-vacuity (base = 4 s in ns: `base * 2^view` exceeds MaxInt64 from view 32 on, where a wrapping int64
product is negative, and is 0 from view 53 on; 62 is the last view below the `view ≥ 63` guard) -/
example : calcTimeout 4000000000 0 = 4000000000 := by decide
example : calcTimeout 4000000000 31 = 8589934592000000000 := by decide
example : calcTimeout 4000000000 32 = maxInt64 := by decide
example : calcTimeout 4000000000 62 = maxInt64 ∧ calcTimeout 4000000000 18446744073709551615 = maxInt64 := by decide

end LeanHelix.C19
