import LeanHelix.Lemmas.WorkerActs
import LeanHelix.Lemmas.List
/-!
# C13 at worker level — the heights passed to the new-consensus-round callback strictly increase

Over every sequence of worker events (deliveries, cache drains, commits and round starts nested inside
deliveries, node syncs of older / equal / newer heights, failing commit callbacks): every
new-round callback is for a height above the node's height before it, and sets the node's height to
it (`act_rounds`: of the worker's primitive actions only a round start reports a round), so over a whole
execution the callback heights are strictly increasing (`round_heights_increase`) and the node's height
never decreases.
-/
namespace LeanHelix.C13
open LeanHelix LeanHelix.Msg LeanHelix.Worker

def roundHeights (outs : List WOut) : List Nat :=
  outs.filterMap (fun o => match o with | .newRound h _ => some h | _ => none)

theorem roundHeights_append (a b : List WOut) : roundHeights (a ++ b) = roundHeights a ++ roundHeights b := by
  unfold roundHeights; rw [List.filterMap_append]

def RoundsOK (w w' : WW) : Prop := ∃ l, w'.outs = w.outs ++ l ∧ Incr w.n.height (roundHeights l) w'.n.height

theorem RoundsOK.refl (w : WW) : RoundsOK w w := ⟨[], (List.append_nil _).symm, .nil (Nat.le_refl _)⟩

theorem RoundsOK.trans {a b c : WW} (h1 : RoundsOK a b) (h2 : RoundsOK b c) : RoundsOK a c := by
  obtain ⟨l1, e1, r1⟩ := h1
  obtain ⟨l2, e2, r2⟩ := h2
  exact ⟨l1 ++ l2, by rw [e2, e1, List.append_assoc], by rw [roundHeights_append]; exact r1.append r2⟩

def Quiet (w w' : WW) : Prop := ∃ l, w'.outs = w.outs ++ l ∧ roundHeights l = []

theorem Quiet.trans {a b c : WW} (h1 : Quiet a b) (h2 : Quiet b c) : Quiet a c := by
  obtain ⟨l1, e1, q1⟩ := h1
  obtain ⟨l2, e2, q2⟩ := h2
  exact ⟨l1 ++ l2, by rw [e2, e1, List.append_assoc], by rw [roundHeights_append, q1, q2]; rfl⟩

theorem Quiet.of_outs_eq {w w' : WW} (h : w'.outs = w.outs) : Quiet w w' := ⟨[], by rw [h, List.append_nil], rfl⟩

theorem RoundsOK.quiet {w w' : WW} (hq : Quiet w w') (hh : w'.n.height = w.n.height) : RoundsOK w w' := by
  obtain ⟨l, ho, hl⟩ := hq
  exact ⟨l, ho, by rw [hl, hh]; exact .nil (Nat.le_refl _)⟩

theorem roundHeights_quiet {l : List WOut} (h : ∀ o ∈ l, o = .stopTimer ∨ ∃ x, o = .term x) : roundHeights l = [] := by
  refine List.filterMap_eq_nil_iff.mpr fun o ho => ?_
  rcases h o ho with rfl | ⟨x, rfl⟩ <;> rfl

theorem roundHeights_term (l : List Term.Out) : roundHeights (l.map WOut.term) = [] :=
  roundHeights_quiet fun _ ho => let ⟨x, _, e⟩ := List.mem_map.mp ho; Or.inr ⟨x, e.symm⟩

theorem act_rounds {G : Prop} {a b : WW} (h : Act G a b) : RoundsOK a b := by
  cases h with
  | start h c hlt =>
    have hi := installTerm_spec { a with n := { a.n with height := h } } h c
    obtain ⟨l, el, ql⟩ := hi.outs
    have hr : roundHeights (l ++ [.newRound h c]) = [h] := by rw [roundHeights_append, roundHeights_quiet ql]; rfl
    exact ⟨_, el, by rw [hr, hi.height]; exact .single hlt (Nat.le_refl _)⟩
  | hand t m =>
    rw [handInTerm_eq]
    exact .quiet ⟨_, rfl, roundHeights_term _⟩ rfl
  | commit t m b cs =>
    rw [handInTerm_eq]
    exact .quiet ⟨_, List.append_assoc .., by rw [roundHeights_append, roundHeights_term]; rfl⟩ rfl
  | elect t h v => exact .quiet ⟨_, rfl, roundHeights_term _⟩ rfl
  | _ => exact .quiet (.of_outs_eq rfl) rfl

theorem step_rounds (fuel : Nat) (n : WNode) (e : WEvent) (spi : List WSpi) :
    Incr n.height (roundHeights (Worker.step fuel n e spi).2) (Worker.step fuel n e spi).1.height := by
  obtain ⟨w', ha, hs⟩ := step_acts (G := False) fuel n e spi nofun
  obtain ⟨l, el, hl⟩ := ha.rel RoundsOK.refl RoundsOK.trans act_rounds
  rw [hs, show w'.outs = l from (List.nil_append l ▸ el)]
  exact hl

def runOuts (fuel : Nat) (n : WNode) : List (WEvent × List WSpi) → WNode × List WOut
  | [] => (n, [])
  | (e, spi) :: rest =>
    let r := Worker.step fuel n e spi
    let r2 := runOuts fuel r.1 rest
    (r2.1, r.2 ++ r2.2)

theorem run_rounds (fuel : Nat) (es : List (WEvent × List WSpi)) :
    ∀ (n : WNode), Incr n.height (roundHeights (runOuts fuel n es).2) (runOuts fuel n es).1.height := by
  induction es with
  | nil => exact fun n => .nil (Nat.le_refl _)
  | cons x rest ih => exact fun n => roundHeights_append .. ▸ (step_rounds fuel n x.1 x.2).append (ih _)

/-- **Over every execution the heights passed to the new-consensus-round callback are strictly
increasing**, all above the starting height, and the node's height never decreases. -/
theorem round_heights_increase (fuel : Nat) (es : List (WEvent × List WSpi)) :
    ∀ (n : WNode), (roundHeights (runOuts fuel n es).2).Pairwise (· < ·)
      ∧ (∀ h ∈ roundHeights (runOuts fuel n es).2, n.height < h) ∧ n.height ≤ (runOuts fuel n es).1.height :=
  fun n => ⟨(run_rounds fuel es n).1, fun h hh => ((run_rounds fuel es n).2.1 h hh).1, (run_rounds fuel es n).2.2⟩

end LeanHelix.C13
