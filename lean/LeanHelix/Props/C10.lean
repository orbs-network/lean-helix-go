import LeanHelix.Model.Worker
import LeanHelix.Lemmas.TermAccept
import LeanHelix.Lemmas.TermViews
import LeanHelix.Props.C07
/-!
# C10 — A correct node never equivocates and respects phase order

Over the Term model, for every node state, event and SPI answer.  PREPARE: `adoption` (a PREPARE is sent only for a
proposal that passed `validatePreprepare` in that event, which is then the stored proposal of its (height, view)) and
first-wins storage give `one_prepare_per_view` over any sequence of events.  COMMIT:
`commit_hash_is_stored_proposal_hash` — every COMMIT the node signs for (h, v) carries the hash of the proposal stored
for (h, v), which never changes; that it is sent only when a prepared certificate or a commit quorum for exactly that
pair exists is `C10Net.net_commit_only_with_certificate`.  Views: `view_never_decreases`,
`viewchange_is_for_the_new_view`.  `never_prepare_as_leader` takes what the worker's filter guarantees (the node's own
messages are dropped) as a hypothesis.  The NEW_VIEWs a node sends are `Props/C10Leader.lean`.
-/
namespace LeanHelix.C10
open LeanHelix LeanHelix.Msg LeanHelix.Term

/-! ## PREPARE -/

theorem checkPreparedLocally_noPrepare (w : Term.W) (h v hash : Nat) :
    Appends NP w (checkPreparedLocally w h v hash) := checkPreparedLocally_appends w h v hash

def T (_ : Node) (_ : StoreOp) : Prop := True

def proposalOf : Event → Option PPMsg
  | .deliver (.preprepare m) => some m
  | .deliver (.newView m) => some ⟨m.pp, m.block⟩
  | _ => none

/-- **Adoption**: whenever a node sends a PREPARE, the event carried a proposal `ppm` that passed
`validatePreprepare` (PREPREPARE-typed, signed by the leader of its view, no proposal stored for that
(height, view) before); the PREPARE is for exactly `ppm`'s (height, view, hash); afterwards `ppm` is the
stored proposal of that (height, view), and the node is in that view. -/
theorem adoption (n : Node) (e : Event) (spi : List Spi) (rs : List Nat) (pm : PMsg)
    (hsend : Out.send rs (.prepare pm) ∈ (step n e spi).2) :
    ∃ ppm, proposalOf e = some ppm ∧ C08.PreprepareAuthentic n ppm
      ∧ pm = ownPrepare n.cfg ppm.c.header.height ppm.c.header.view ppm.c.header.hash
      ∧ (step n e spi).1.store.getPP ppm.c.header.height ppm.c.header.view = some ppm
      ∧ (step n e spi).1.view = ppm.c.header.view := by
  rw [step_eq] at hsend ⊢
  rcases stepW_prepare_cases { n := n, spi := spi } e with hq | ⟨ppm, w1, hsrc, ha, h1, hc, hv, had, _⟩
  · exact absurd (hq rs pm hsend) List.not_mem_nil
  · -- `w1` is reached by calls to the consumer (and `initView`): the PREPARE is the one of the adoption
    refine ⟨ppm, ?_, ha, hc ▸ had.prepare_eq hsend (fun h => List.not_mem_nil (h1.send_mem h)), had.stored, had.view.trans hv⟩
    rcases hsrc with ⟨rfl, _⟩ | ⟨nvm, rfl, rfl, _⟩ <;> rfl

/-! ## one PREPARE per (height, view), over whole executions -/

def runAll (n : Node) : List (Event × List Spi) → Node × List Out
  | [] => (n, [])
  | (e, spi) :: rest =>
    let (n1, o1) := step n e spi
    let (n2, o2) := runAll n1 rest
    (n2, o1 ++ o2)

theorem runAll_getPP_stable (es : List (Event × List Spi)) (n : Node) (h v : Nat) (p : PPMsg)
    (hp : n.store.getPP h v = some p) : (runAll n es).1.store.getPP h v = some p := by
  induction es generalizing n with
  | nil => exact hp
  | cons x xs ih => exact ih _ ((step_ev n x.1 x.2).getPP_stable h v p hp)

/-- **One PREPARE hash per (height, view)**: in any execution of a term (any events, any SPI
answers), two PREPAREs the node sends for the same (height, view) are the same message.  `hstart` (no second
start) is not needed: a start sends no PREPARE and keeps the log (`adoption`, `step_ev`). -/
theorem one_prepare_per_view (es : List (Event × List Spi)) (n : Node)
    (hstart : ∀ x ∈ es, ∀ c, x.1 ≠ .start c)
    (rs1 rs2 : List Nat) (p1 p2 : PMsg)
    (h1 : Out.send rs1 (.prepare p1) ∈ (runAll n es).2) (h2 : Out.send rs2 (.prepare p2) ∈ (runAll n es).2)
    (hk : p1.header.height = p2.header.height ∧ p1.header.view = p2.header.view) : p1 = p2 := by
  -- every PREPARE sent is the node's own for the proposal that is stored for its (height, view) at the end
  have gen : ∀ (es : List (Event × List Spi)) (n : Node),
      ∀ rs pm, Out.send rs (.prepare pm) ∈ (runAll n es).2 →
        ∃ ppm, (runAll n es).1.store.getPP pm.header.height pm.header.view = some ppm
          ∧ pm = ownPrepare n.cfg pm.header.height pm.header.view ppm.c.header.hash := by
    intro es
    induction es with
    | nil => intro n rs pm h; cases h
    | cons x xs ih =>
      intro n rs pm h
      obtain ⟨e, spi⟩ := x
      unfold runAll at h ⊢
      dsimp only at h ⊢
      rcases List.mem_append.mp h with h | h
      · obtain ⟨ppm, _, _, hpm, hget, _⟩ := adoption n e spi rs pm h
        exact ⟨ppm, by rw [hpm]; exact runAll_getPP_stable xs _ _ _ _ hget, by rw [hpm]; rfl⟩
      · obtain ⟨ppm, hget, hpm⟩ := ih (step n e spi).1 rs pm h
        exact ⟨ppm, hget, by rw [← (step_ev n e spi).cfg]; exact hpm⟩
  obtain ⟨q1, g1, e1⟩ := gen es n rs1 p1 h1
  obtain ⟨q2, g2, e2⟩ := gen es n rs2 p2 h2
  rw [hk.1, hk.2] at g1
  rw [g1] at g2
  injection g2 with g2
  rw [e1, e2, hk.1, hk.2, g2]

/-! ## COMMIT -/

def CommitsStored (w : Term.W) : Prop :=
  ∀ rs cm, Out.send rs (.commit cm) ∈ w.outs →
    ∃ ppm, w.n.store.getPP cm.header.height cm.header.view = some ppm ∧ ppm.c.header.hash = cm.header.hash
      ∧ ppm.block.isSome = true

/-- a COMMIT is sent by a node that becomes prepared, or that sees a commit quorum: both look at the
stored proposal first; and a stored proposal stays (`Evolves.getPP_stable`) -/
theorem commitsStored_act {e : Event} {a b : Term.W} (h : Act e a b) (hi : CommitsStored a) : CommitsStored b := by
  intro rs cm hm
  have hold : Out.send rs (.commit cm) ∈ a.outs → ∃ ppm, b.n.store.getPP cm.header.height cm.header.view = some ppm
      ∧ ppm.c.header.hash = cm.header.hash ∧ ppm.block.isSome = true := fun hm =>
    let ⟨ppm, hg, hh, hb⟩ := hi rs cm hm
    ⟨ppm, h.evolves.getPP_stable _ _ _ hg, hh, hb⟩
  cases h with
  | out o ho => exact (mem_emit hm).elim hold (fun h => absurd h.symm (benignOnly_not_send o ho rs _))
  | view v ht hv => exact (mem_emit hm).elim hold (fun h => by cases h)
  | enter v ht hv => exact (mem_emit hm).elim hold (fun h => by cases h)
  | accept ppm hsrc hauth hv => exact (mem_emit hm).elim hold (fun h => by cases h)
  | decide h v hash b hce hc => exact (mem_emit hm).elim hold (fun h => by cases h)
  | propose b hash v o hv hlead ho =>
    refine (mem_emit hm).elim hold (fun h => ?_)
    rcases ho with ⟨_, _, rfl⟩ | ⟨_, _, _, rfl⟩ <;> cases h
  | voteSend vc he hv hs => exact (mem_emit hm).elim hold (fun h => by cases h)
  | prepared h v hash hce hc =>
    refine (mem_emit hm).elim hold (fun h => ?_)
    cases h
    obtain ⟨ppm, hg, hb, hh⟩ := (isPreprepared_iff _ _ _ _).mp hc.2.1
    exact ⟨ppm, apply_getPP_stable _ (.commit _) _ _ _ hg, hh, hb⟩
  | late h v hash b hce hc =>
    refine (mem_emit hm).elim hold (fun h => ?_)
    cases h
    obtain ⟨ppm, hg, hb, hh⟩ := hc.pp
    exact ⟨ppm, hg, hh, by rw [hb]; rfl⟩
  | _ => exact hold hm

/-- **One COMMIT hash per (height, view), and only for an accepted proposal**: every COMMIT the
node sends for (h, v) carries the hash of the proposal stored for (h, v) (with its block) — and that
stored proposal never changes (`Evolves.getPP_stable`). -/
theorem commit_hash_is_stored_proposal_hash (n : Node) (e : Event) (spi : List Spi) (rs : List Nat) (cm : CMsg)
    (hsend : Out.send rs (.commit cm) ∈ (step n e spi).2) :
    ∃ ppm, (step n e spi).1.store.getPP cm.header.height cm.header.view = some ppm
      ∧ ppm.c.header.hash = cm.header.hash ∧ ppm.block.isSome = true := by
  rw [step_eq] at hsend ⊢
  exact Acts.rel (R := fun a b => CommitsStored a → CommitsStored b) (fun _ => id) (fun h1 h2 h => h2 (h1 h))
    commitsStored_act (stepW_acts { n := n, spi := spi } e) (fun _ _ h => by cases h) rs cm hsend

/-! ## views and VIEW_CHANGE -/

/-- **the view of a node never decreases**, whatever it receives -/
theorem view_never_decreases (n : Node) (e : Event) (spi : List Spi) : n.view ≤ (step n e spi).1.view := by
  rw [step_eq]
  exact Acts.rel (R := fun a b => a.n.view ≤ b.n.view) (fun _ => Nat.le_refl _) Nat.le_trans Act.view_le
    (stepW_acts { n := n, spi := spi } e)

/-- no VIEW_CHANGE send -/
def NVC (o : Out) : Prop := ∀ rs m, o ≠ .send rs (.viewChange m)

theorem NVC_benign : Benign NVC :=
  ⟨fun _ _ _ _ h => (by cases h), fun _ _ _ h => (by cases h), fun _ _ _ _ _ h => (by cases h), fun _ _ _ h => (by cases h)⟩

/-- **The VIEW_CHANGE the election step sends is the node's own vote for the view it has just entered, the
successor `wrap64 (view + 1)` of the view it left and not below it.**  With `view_never_decreases` the views of a
node's VIEW_CHANGE messages increase along any execution. -/
theorem viewchange_is_for_the_new_view (n : Node) (h v : Nat) (spi : List Spi) (rs : List Nat) (vcm : VCMsg)
    (hsend : Out.send rs (.viewChange vcm) ∈ (step n (.election h v) spi).2) :
    vcm.c.header.view = (step n (.election h v) spi).1.view ∧ vcm.c.sender = mySig n.cfg
      ∧ n.view ≤ vcm.c.header.view ∧ vcm.c.header.view = wrap64 (n.view + 1) := by
  have hs : Out.send rs (.viewChange vcm) ∈ (election { n := n, spi := spi } h v).outs := hsend
  show vcm.c.header.view = (election { n := n, spi := spi } h v).n.view ∧ _
  rcases election_cases { n := n, spi := spi } h v with ⟨_, e1⟩ | ⟨_, _, hle, ⟨_, e1⟩ | ⟨_, e1⟩⟩ <;> rw [e1] at hs ⊢
  · cases hs
  · -- the node leads the next view: it logs its vote, and what follows never sends a VIEW_CHANGE
    obtain ⟨l, el, pl⟩ := checkElected_appends' NVC_benign (fun _ _ _ _ h => by cases h) _ h (wrap64 (n.view + 1))
    rw [el] at hs
    rcases List.mem_append.mp hs with hs | hs
    · simp [W.enterView, W.emit] at hs
    · exact absurd rfl (pl _ hs rs vcm)
  · simp only [W.emit, W.enterView, List.nil_append, List.mem_append, List.mem_singleton, reduceCtorEq, false_or,
      Out.send.injEq, Message.viewChange.injEq] at hs
    rw [hs.2]
    exact ⟨rfl, rfl, hle, rfl⟩

/-- **PREPARE only for the proposal accepted from that view's leader, never as the leader**: the
proposal a PREPARE answers is signed by the leader of its view; `hfilter`: it is not signed by this node — the
worker's filter drops every message carrying the node's own id as sender (`C08.filtered_messages_change_nothing`),
and the proposal inside a NEW_VIEW is signed by the leader of the view, as the NEW_VIEW is.  So that leader is
another member, and the node is not the leader of a view in which it sends PREPARE. -/
theorem never_prepare_as_leader (n : Node) (e : Event) (spi : List Spi) (rs : List Nat) (pm : PMsg)
    (hsend : Out.send rs (.prepare pm) ∈ (step n e spi).2)
    (hfilter : ∀ ppm, proposalOf e = some ppm → ppm.c.sender.id ≠ n.cfg.me) :
    isLeader n.cfg n.cfg.me pm.header.view = false := by
  obtain ⟨ppm, hp, hauth, hpm, _, _⟩ := adoption n e spi rs pm hsend
  rw [show pm.header.view = ppm.c.header.view by rw [hpm]; rfl]
  exact isLeader_ne hauth.leader (hfilter ppm hp)

end LeanHelix.C10
