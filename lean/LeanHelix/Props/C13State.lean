import LeanHelix.Model.State
/-!
# C13 (state part) — the observable (height, view) never decreases lexicographically

Every mutation of `state.State` by non-test code goes through `SetHeightAndResetView` or
`SetView`, each atomic under the mutex; so any concurrent history is some sequence of `step`s and
every observation (`Height()`, `View()`, `HeightView()`) returns the state between two steps.
The theorems hold for every sequence of calls with arbitrary arguments.
-/
namespace LeanHelix.C13
open LeanHelix.State

def lexLe (a b : HV) : Prop := a.height < b.height ∨ (a.height = b.height ∧ a.view ≤ b.view)

theorem lexLe_refl (a : HV) : lexLe a a := Or.inr ⟨rfl, Nat.le_refl _⟩

theorem lexLe_trans {a b c : HV} (h1 : lexLe a b) (h2 : lexLe b c) : lexLe a c := by
  unfold lexLe at *; omega

theorem step_monotone (s : HV) (op : Op) : lexLe s (step s op).1 := by
  cases op with
  | setHeightAndResetView h =>
    unfold step lexLe; by_cases hh : s.height ≥ h <;> simp [hh] <;> omega
  | setView v =>
    unfold step lexLe; by_cases hv : s.view > v <;> simp [hv] <;> omega

theorem run_monotone (s : HV) (ops : List Op) : lexLe s (run s ops) :=
  List.foldlRecOn ops _ (lexLe_refl s) fun b hb o _ => lexLe_trans hb (step_monotone b o)

theorem observations_monotone (s : HV) (xs ys : List Op) : lexLe (run s xs) (run s (xs ++ ys)) := by
  have : run s (xs ++ ys) = run (run s xs) ys := by unfold run; rw [List.foldl_append]
  rw [this]; exact run_monotone _ _

theorem view_reset_on_height_increase (s : HV) (op : Op) (h : s.height < (step s op).1.height) :
    (step s op).1.view = 0 := by
  cases op with
  | setHeightAndResetView hh =>
    unfold step at *; by_cases c : s.height ≥ hh <;> simp [c] at h ⊢
  | setView v =>
    unfold step at h; by_cases c : s.view > v <;> simp [c] at h

theorem height_unchanged_keeps_view_monotone (s : HV) (op : Op) (h : (step s op).1.height = s.height) :
    s.view ≤ (step s op).1.view := by
  have := step_monotone s op; unfold lexLe at this; omega

theorem refused_changes_nothing (s : HV) (op : Op) (h : (step s op).2.2 = false) : (step s op).1 = s := by
  cases op with
  | setHeightAndResetView hh => unfold step at *; by_cases c : s.height ≥ hh <;> simp [c] at h ⊢
  | setView v => unfold step at *; by_cases c : s.view > v <;> simp [c] at h ⊢

theorem accepted_height (s : HV) (h : Nat) (hacc : (step s (.setHeightAndResetView h)).2.2 = true) :
    (step s (.setHeightAndResetView h)).1 = ⟨h, 0⟩ ∧ s.height < h := by
  unfold step at *; by_cases c : s.height ≥ h <;> simp [c] at hacc ⊢; omega

/-! ## non-vacuity -/
example : run init [.setHeightAndResetView 1, .setView 3, .setView 2, .setHeightAndResetView 1, .setHeightAndResetView 5]
    = ⟨5, 0⟩ := by decide

end LeanHelix.C13
