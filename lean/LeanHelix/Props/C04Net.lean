import LeanHelix.Props.C01Net
/-!
# C04 — External validity, for the network of term models

`net_validity`: in every reachable state of the network model (`Net/`, same quantification as
`C01Net.net_agreement`), the hash of every block a correct member hands to its commit callback was
**approved by the consumer of at least one correct committee member**: some step of that member in the
schedule either began with a positive `ValidateBlockProposal` verdict while a proposal for exactly that
hash was being delivered (bare PREPREPARE, or the proposal inside a NEW_VIEW), or began with the block
the member's own `RequestNewBlockProposal` returned, whose hash it is.  (That a step whose SPI answers
begin with a verdict actually made the call, for exactly the delivered (block, hash) and under a live
context, is `C04.adopted_proposal_is_validated_or_certified` / `Term.askValidate_true`.)

`rejected_everywhere_never_committed`: a hash that no correct member's consumer approves in the
schedule is never committed by any correct member — whatever Byzantine leaders propose, in view 0 or
inside NEW_VIEWs, with or without (genuine, forged, foreign) proofs.

Proof: the invariant `NetInv.origin` (every hash a correct member accepted was approved by its own
consumer in that step, or was certified in an earlier view — `Net.blk_origin` per atomic block), and
induction over views from the certificate of the deciding view down to a fresh approval.
-/
namespace LeanHelix.C04Net
open LeanHelix LeanHelix.Msg LeanHelix.Term LeanHelix.Spec LeanHelix.Net

variable {C : NetCfg}

theorem cert_approved (hwf : WF C) {net : Net} (hinv : NetInv C hwf net) :
    ∀ (v h : Nat), validCert (setting C hwf) net.H v h →
      ∃ m ∈ C.ms, C.honest m.id = true ∧ ApprovedBy net.trace m.id h := by
  intro v
  induction v using Nat.strongRecOn with
  | _ v ih =>
    intro h hcert
    obtain ⟨m, hm, hh, hacc⟩ := Spec.certified_was_accepted_by_correct (setting C hwf) hcert
    rcases hinv.origin m.id v h hacc with hap | ⟨pv, hlt, hc'⟩
    · exact ⟨m, hm, hh, hap⟩
    · exact ih pv hlt h hc'

/-- **C04, network level.** The hash of every block committed by a correct member was approved by the
consumer of at least one correct committee member. -/
theorem net_validity (hwf : WF C) {net : Net} (hr : Reach C net) {a : Nat}
    (ha : C.honest a = true) (hma : ∃ m ∈ C.ms, m.id = a) {b : Block} {cs : List CMsg}
    (hc : Out.commit b cs ∈ net.outs a) :
    ∃ m ∈ C.ms, C.honest m.id = true ∧ ApprovedBy net.trace m.id (commitHash cs) := by
  have hinv := reach_inv hwf hr
  obtain ⟨v, hq⟩ := Spec.dec_commitQuorum (setting C hwf) hinv.valid (C01Net.commit_in_history hwf hr ha hma hc)
  exact cert_approved hwf hinv v _ (Spec.commitQuorum_cert _ hinv.valid hq)

/-- **a proposal that every correct member's consumer rejects is never committed by a correct member** -/
theorem rejected_everywhere_never_committed (hwf : WF C) {net : Net} (hr : Reach C net) (h : Nat)
    (hrej : ∀ m ∈ C.ms, C.honest m.id = true → ¬ ApprovedBy net.trace m.id h)
    {a : Nat} (ha : C.honest a = true) (hma : ∃ m ∈ C.ms, m.id = a) {b : Block} {cs : List CMsg}
    (hc : Out.commit b cs ∈ net.outs a) : commitHash cs ≠ h := by
  intro he
  obtain ⟨m, hm, hh, hap⟩ := net_validity hwf hr ha hma hc
  rw [he] at hap
  exact hrej m hm hh hap

/-! ## non-vacuity: in the concrete execution of `C01Net` the committed hash was approved by member 1's
own consumer (it proposed the block) and validated by members 2 and 3 -/
example : ∃ net, Reach C01Net.exC net ∧ ApprovedBy net.trace 2 99 ∧ ApprovedBy net.trace 1 99 := by
  obtain ⟨net, hr, htr⟩ := C01Net.ex_trace
  refine ⟨net, hr, ?_, ?_⟩
  · rw [htr]
    exact ⟨(2, .deliver (.preprepare C01Net.exPP), [.verdict true none]), List.mem_reverse.mpr (by simp [C01Net.exSched]), rfl, Or.inl ⟨none, [], rfl, rfl⟩⟩
  · rw [htr]
    exact ⟨(1, .start true, [.proposal C01Net.exBlock none]), List.mem_reverse.mpr (by simp [C01Net.exSched]), rfl, Or.inr ⟨C01Net.exBlock, none, [], rfl, rfl⟩⟩

end LeanHelix.C04Net
