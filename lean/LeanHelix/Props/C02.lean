import LeanHelix.Model.BlockProof
import LeanHelix.Lemmas.Weights
/-!
# C02 — ValidateBlockConsensus never accepts a block without a genuine commit quorum

`Genuine` is the property's acceptance condition, written independently of the code's control flow.
`validate_ok_iff_genuine`: the model of `ValidateBlockConsensus` returns `ok` iff the input is
genuine, for any signer list (duplicates, outsiders, bad signatures in any position), any committee
and both modes.  Everything else is one of the error verdicts: the verdict type has no "panic"
alternative, unreadable bytes are `none`.
-/
namespace LeanHelix.C02
open LeanHelix LeanHelix.Msg LeanHelix.BlockProof

def isMember (ms : List Member) (id : Nat) : Bool := ms.any (fun m => m.id == id)

def Genuine (i : VInput) : Prop :=
  i.ctxCancelled = false ∧
  ∃ b p, i.block = some b ∧ i.proof = some p
    ∧ p.ref.mtype = tC
    ∧ p.ref.inst = i.inst
    ∧ p.ref.height = b.height
    ∧ b.hash = p.ref.hash
    ∧ (∀ s ∈ p.nodes, s.ok = true ∧ isMember i.members s.id = true)
    ∧ (p.nodes.map (·.id)).Nodup
    ∧ (if i.soft then (Quorum.hasHonest (p.nodes.map (·.id)) i.members).1 = true
       else (Quorum.isQuorum (p.nodes.map (·.id)) i.members).1 = true)
    ∧ p.seedSigEmpty = false ∧ p.seedOk = true

theorem guard_iff {α : Type} {c : Prop} [Decidable c] {e x r : α} (he : e ≠ r) :
    (if c then e else x) = r ↔ ¬ c ∧ x = r := by
  by_cases h : c
  · rw [if_pos h]; exact ⟨fun k => absurd k he, fun k => absurd h k.1⟩
  · rw [if_neg h]; exact ⟨fun k => ⟨h, k⟩, fun k => k.2⟩

theorem checkSigners_eq_ok (members : List Member) (nodes : List SSig) (seen ids : List Nat) :
    checkSigners members nodes seen = (.ok, ids) ↔
      ids = seen ++ nodes.map (·.id) ∧ (∀ s ∈ nodes, s.ok = true ∧ isMember members s.id = true) ∧
      (nodes.map (·.id)).Nodup ∧ ∀ s ∈ nodes, s.id ∉ seen := by
  induction nodes generalizing seen with
  | nil =>
    simp only [checkSigners, Prod.mk.injEq, true_and, List.map_nil, List.append_nil, List.nodup_nil,
      List.not_mem_nil, false_imp_iff, implies_true, and_true]
    exact eq_comm
  | cons s rest ih =>
    rw [checkSigners, guard_iff (by nofun), guard_iff (by nofun), guard_iff (by nofun), ih]
    simp only [Bool.not_eq_true', Bool.not_eq_false, List.contains_eq_mem, decide_eq_true_eq, List.map_cons,
      List.append_assoc, List.singleton_append, List.mem_cons, forall_eq_or_imp, List.nodup_cons, List.mem_map,
      List.mem_append, not_or, isMember]
    -- left: the three checks on `s`, then the rest against `seen ++ [s.id]`; right: the same facts regrouped
    constructor
    · rintro ⟨a, b, c, rfl, d, e, f⟩
      exact ⟨rfl, ⟨⟨a, c⟩, d⟩, ⟨fun ⟨x, hx, hxs⟩ => (f x hx).2.1 hxs, e⟩, b, fun x hx => (f x hx).1⟩
    · rintro ⟨rfl, ⟨⟨a, c⟩, d⟩, ⟨g, e⟩, b, f⟩
      exact ⟨a, b, c, rfl, d, e, fun x hx => ⟨f x hx, fun hxs => g ⟨x, hx, hxs⟩, List.not_mem_nil⟩⟩

/-- every guard of `ValidateBlockConsensus` ends in an error verdict, so `ok` means all were passed -/
theorem genuine_of_ok (i : VInput) (h : validate i = .ok) : Genuine i := by
  obtain ⟨ctx, blk, prf, inst, members, soft⟩ := i
  unfold validate at h
  rw [guard_iff (by nofun)] at h
  obtain ⟨hc, h⟩ := h
  cases blk with
  | none => cases h
  | some b =>
  cases prf with
  | none => cases h
  | some p =>
  dsimp only at h
  rw [guard_iff (by nofun)] at h; obtain ⟨h1, h⟩ := h
  rw [guard_iff (by nofun)] at h; obtain ⟨h2, h⟩ := h
  rw [guard_iff (by nofun)] at h; obtain ⟨h3, h⟩ := h
  rw [guard_iff (by nofun)] at h; obtain ⟨h4, h⟩ := h
  cases hcs : checkSigners members p.nodes [] with
  | mk vd ids =>
  rw [hcs] at h
  cases vd
  case ok =>
    dsimp only at h
    rw [guard_iff (by nofun)] at h; obtain ⟨hw, h⟩ := h
    rw [guard_iff (by nofun)] at h; obtain ⟨he, h⟩ := h
    rw [guard_iff (by nofun)] at h; obtain ⟨hk, _⟩ := h
    obtain ⟨rfl, hall, hnd, _⟩ := (checkSigners_eq_ok _ _ _ _).mp hcs
    refine ⟨by simpa using hc, b, p, rfl, rfl, by simpa using h1, (by simpa using h2 : inst = p.ref.inst).symm,
      (by simpa using h3 : b.height = p.ref.height).symm, by simpa [commitmentOk] using h4, hall, hnd, ?_,
      by simpa using he, by simpa using hk⟩
    rw [← Bool.ite_eq_true_distrib]; simpa using hw
  all_goals cases h

theorem ok_of_genuine (i : VInput) (h : Genuine i) : validate i = .ok := by
  obtain ⟨hc, b, p, hb, hp, h1, h2, h3, h4, hall, hnd, hw, he, hk⟩ := h
  have hcs := (checkSigners_eq_ok i.members p.nodes [] _).mpr ⟨rfl, hall, hnd, fun _ _ => List.not_mem_nil⟩
  rw [← Bool.ite_eq_true_distrib] at hw
  simp [validate, hc, hb, hp, h1, h2, h3, commitmentOk, h4, hcs, hw, he, hk]

/-- **`ValidateBlockConsensus` returns nil exactly for genuine inputs.** -/
theorem validate_ok_iff_genuine (i : VInput) : validate i = .ok ↔ Genuine i :=
  ⟨genuine_of_ok i, ok_of_genuine i⟩

/-- `Genuine` states the weight condition by the code's own uint64 computation (`Quorum.isQuorum`,
`Quorum.hasHonest`); for a committee whose total weight fits 64 bits that is: at least Q = W - f in strict
mode, above f in soft mode -/
theorem accepted_signers_weight (i : VInput) (h : validate i = .ok)
    (hW1 : 1 ≤ W i.members) (hW2 : W i.members < U64) :
    ∃ p, i.proof = some p ∧
      (i.soft = false → Q i.members ≤ wt i.members (fun x => (p.nodes.map (·.id)).contains x)) ∧
      (i.soft = true → F i.members < wt i.members (fun x => (p.nodes.map (·.id)).contains x)) := by
  obtain ⟨_, b, p, _, hp, _, _, _, _, _, _, hw, _⟩ := (validate_ok_iff_genuine i).mp h
  refine ⟨p, hp, ?_, ?_⟩
  · intro hs; rw [hs] at hw; exact (isQuorum_iff hW1 hW2 _).mp hw
  · intro hs; rw [hs] at hw; exact (hasHonest_iff hW1 hW2 _).mp hw

/-! ## non-vacuity -/
def exMembers : List Member := [⟨10, 1⟩, ⟨11, 1⟩, ⟨12, 1⟩, ⟨13, 1⟩]
def exProof : BProof := ⟨⟨tC, 7, 5, 0, 99⟩, [⟨10, true⟩, ⟨12, true⟩, ⟨13, true⟩], false, true⟩
example : validate ⟨false, some ⟨1, 5, 99⟩, some exProof, 7, exMembers, false⟩ = .ok := by decide
example : validate ⟨false, some ⟨1, 5, 99⟩, some { exProof with nodes := [⟨10, true⟩, ⟨10, true⟩, ⟨12, true⟩] }, 7, exMembers, false⟩ = .errDuplicate := by decide
example : validate ⟨false, some ⟨1, 5, 99⟩, some { exProof with nodes := [⟨10, true⟩, ⟨12, true⟩] }, 7, exMembers, false⟩ = .errWeight := by decide
example : validate ⟨false, some ⟨1, 5, 99⟩, some { exProof with nodes := [⟨10, true⟩, ⟨12, true⟩] }, 7, exMembers, true⟩ = .ok := by decide

end LeanHelix.C02
