import LeanHelix.Net.Reach
import LeanHelix.Lemmas.TermReg
/-!
# C15 — the registry theorems, for every member in every reachable state of the network model

`Props/C15Registry.lean` proves its theorems for every registry that satisfies the invariant `C15.Inv`
(true of the empty registry, kept by every operation).  `Lemmas/TermReg.lean` shows the term applies
nothing but registry operations to the registry inside its state (`Term.step_regRun`: of the primitive
actions of `Lemmas/TermActs.lean` only `reg` touches it), and `C05Net.reach_reg_inv` (below; the liveness
composition uses it too) lifts the invariant to every member of every reachable state of the network model.  Read off here:

* `net_handed_out_is_live`: a context the term obtains for an SPI call is live at that moment;
* `net_election_cancels_older`: the registry operation an election trigger performs (`CancelOlderThan`)
  ends every context ever issued for an older (height, view) — the blocked SPI call of an older view is released;
* `net_done_only_if_over`: a context is done only when the registry was shut down or its (height, view)
  has been superseded — events about older positions never end a current or future call.
-/
namespace LeanHelix.C05Net
open LeanHelix LeanHelix.Msg LeanHelix.Term LeanHelix.Net

variable {C : NetCfg}

/-- the term applies nothing but registry operations to its registry (`Term.step_regRun`) -/
theorem reach_reg_inv {net : Net} (hr : Reach C net) (i : Nat) : C15.Inv (net.node i).reg :=
  reach_member (P := fun _ n _ => C15.Inv n.reg) (fun _ => C15.inv_init)
    (fun _ n _ e spi _ _ _ hst h => by have := Term.step_regInv n e spi h; rwa [hst] at this) hr i

end LeanHelix.C05Net

namespace LeanHelix.C15Net
open LeanHelix LeanHelix.Msg LeanHelix.Term LeanHelix.Net LeanHelix.Contexts

variable {C : NetCfg}

theorem net_handed_out_is_live {net : Net} (hr : Reach C net) (i : Nat) (hv : State.HV) (id : Nat)
    (hres : (Contexts.step (net.node i).reg (.for_ hv)).2 = .ctx id) :
    Contexts.done (Contexts.step (net.node i).reg (.for_ hv)).1 id = false
    ∧ (hv, id) ∈ (Contexts.step (net.node i).reg (.for_ hv)).1.live :=
  C15.handed_out_is_live _ (C05Net.reach_reg_inv hr i) hv id hres

theorem net_election_cancels_older {net : Net} (hr : Reach C net) (i : Nat) (hv : State.HV) (p : State.HV × Nat)
    (hp : p ∈ (net.node i).reg.issued) (hold : p.1.olderThan hv = true) :
    Contexts.done (Contexts.step (net.node i).reg (.cancelOlderThan hv)).1 p.2 = true :=
  C15.cancel_cancels_all_older _ (C05Net.reach_reg_inv hr i) hv p hp hold

theorem net_done_only_if_over {net : Net} (hr : Reach C net) (i : Nat) (p : State.HV × Nat)
    (hp : p ∈ (net.node i).reg.issued) (hd : Contexts.done (net.node i).reg p.2 = true) :
    (net.node i).reg.shutdown = true ∨ C15.stale (net.node i).reg p.1 :=
  C15.done_only_if_superseded_or_shutdown _ (C05Net.reach_reg_inv hr i) p hp hd

end LeanHelix.C15Net
