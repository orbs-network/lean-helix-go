import LeanHelix.Props.C10
import LeanHelix.Lemmas.List
/-!
# C10 (leader part) — a node sends at most one NEW_VIEW per view

Over arbitrary event sequences of the Term model.  Two facts about the bookkeeping value `latestNV` hold
across every action (`lv_act`): it never decreases and never exceeds the node's view (it moves only
together with the view, when the node is elected or adopts a NEW_VIEW).  A NEW_VIEW is sent only where
`checkElected` finds `latestNV < view`, at most once, for that view, with `latestNV := view`
(`checkElected_nv`, from the case lemmas).  Hence the views of a node's NEW_VIEWs increase strictly,
whatever it receives (`newview_views_increase`, `one_newview_per_view`).
-/
namespace LeanHelix.C10
open LeanHelix LeanHelix.Msg LeanHelix.Term

def isNV : Out → Bool
  | .send _ (.newView _) => true
  | _ => false

def NoNV (o : Out) : Prop := isNV o = false

theorem noNV_benign : Benign NoNV := ⟨fun _ _ => rfl, fun _ => rfl, fun _ _ _ => rfl, fun _ => rfl⟩

theorem noNV_emits {e : Event} (he : ¬ ElectEv e) : Emits e NoNV :=
  ⟨noNV_benign.only, fun _ _ _ => rfl, fun _ _ _ => rfl, fun _ _ _ => rfl, fun _ _ _ => rfl, fun h => absurd h he, fun _ _ _ => rfl⟩

/-- bookkeeping invariant: the last view for which the node was elected or adopted a NEW_VIEW never exceeds its view -/
def LVInv (n : Node) : Prop := n.latestNV ≤ n.view

theorem lv_act {e : Event} {a b : Term.W} (h : Act e a b) (hi : LVInv a.n) : a.n.latestNV ≤ b.n.latestNV ∧ LVInv b.n := by
  cases h with
  | view v ht hv => exact ⟨Nat.le_refl _, Nat.le_trans hi hv⟩
  | enter v ht hv => exact ⟨Nat.le_trans hi hv, Nat.le_refl v⟩
  | _ => exact ⟨Nat.le_refl _, hi⟩

theorem lv_acts {e : Event} {a b : Term.W} (h : Acts e a b) : LVInv a.n → a.n.latestNV ≤ b.n.latestNV ∧ LVInv b.n :=
  Acts.rel (R := fun a b => LVInv a.n → a.n.latestNV ≤ b.n.latestNV ∧ LVInv b.n) (fun _ hi => ⟨Nat.le_refl _, hi⟩)
    (fun h1 h2 hi => ⟨Nat.le_trans (h1 hi).1 (h2 (h1 hi).2).1, (h2 (h1 hi).2).2⟩) lv_act h

/-! ## at most one NEW_VIEW per event

The actions do not say in which order they come, so this is read off the case lemmas: `sendNewView` is
the last thing `onElectedByViewChange` does, and only `checkElected` leads there. -/

def nvViews (outs : List Out) : List Nat :=
  outs.filterMap (fun o => match o with | .send _ (.newView nv) => some nv.header.view | _ => none)

theorem nvViews_append (a b : List Out) : nvViews (a ++ b) = nvViews a ++ nvViews b := List.filterMap_append

theorem nvViews_of_appends {w w' : Term.W} (h : Appends NoNV w w') : nvViews w'.outs = nvViews w.outs := by
  obtain ⟨l, e, p⟩ := h
  have hl : nvViews l = [] := by
    refine List.filterMap_eq_nil_iff.mpr fun o ho => ?_
    have := p o ho
    cases o with
    | send rs m =>
      cases m with
      | newView nv => cases this
      | _ => rfl
    | _ => rfl
  rw [e, nvViews_append, hl, List.append_nil]

theorem nvViews_sendNewView (w : Term.W) (h view : Nat) (vcs : List VCMsg) (b : Block) (hash : Nat) :
    nvViews (sendNewView w h view vcs b hash).outs = nvViews w.outs ++ [view] := nvViews_append _ _

def OneNV (w w' : Term.W) : Prop :=
  nvViews w'.outs = nvViews w.outs ∨
  ∃ v, nvViews w'.outs = nvViews w.outs ++ [v] ∧ w.n.latestNV < v ∧ v ≤ w'.n.latestNV

theorem onElected_nv (w : Term.W) (view : Nat) (vcs : List VCMsg) (hlt : w.n.latestNV < view) :
    OneNV w (onElectedByViewChange w view vcs) := by
  obtain ⟨w1, c, e1 | ⟨_, b, hash, _, e1⟩⟩ := onElectedByViewChange_sends w view vcs <;> rw [e1]
  all_goals have h1 := (nvViews_of_appends (c.appends noNV_benign)).trans (nvViews_of_appends (nvEnter_appends noNV_benign w view))
  · exact Or.inl h1
  · exact Or.inr ⟨view, by rw [nvViews_sendNewView, h1], hlt, Nat.le_of_eq (c.n.latestNV.trans (nvEnter_spec w view).latestNV).symm⟩

/-- the guard `latestNV < view` of `checkElected` is what keeps the views of a node's NEW_VIEWs apart -/
theorem checkElected_nv (w : Term.W) (h view : Nat) : OneNV w (checkElected w h view) := by
  rcases checkElected_cases w h view with ⟨_, e1⟩ | ⟨hlt, _, e1⟩ <;> rw [e1]
  · exact Or.inl rfl
  · exact onElected_nv w view _ hlt

theorem stepW_nv (w : Term.W) (e : Event) : OneNV w (stepW w e) := by
  have quiet : ∀ {e}, ¬ ElectEv e → OneNV w (stepW w e) :=
    fun he => Or.inl (nvViews_of_appends ((stepW_acts w _).appends (noNV_emits he)))
  cases e with
  | election h v =>
    show OneNV w (election w h v)
    rcases election_cases w h v with ⟨_, e1⟩ | ⟨_, _, _, ⟨_, e1⟩ | ⟨_, e1⟩⟩ <;> rw [e1]
    · exact Or.inl rfl
    · -- entering the view and logging the own vote emit no NEW_VIEW and leave the bookkeeping value alone
      have key : ∀ w1 : Term.W, nvViews w1.outs = nvViews w.outs → w1.n.latestNV = w.n.latestNV →
          OneNV w1 (checkElected w1 h (wrap64 (w.n.view + 1))) → OneNV w (checkElected w1 h (wrap64 (w.n.view + 1))) := by
        intro w1 ho hl hc
        unfold OneNV at hc ⊢
        rw [ho, hl] at hc; exact hc
      exact key _ (nvViews_of_appends (Appends.emit (P := NoNV) w (.registerElection _ _) rfl)) rfl (checkElected_nv _ _ _)
    · exact Or.inl (nvViews_of_appends (Appends.emit_trans _ (Appends.emit _ _ rfl) rfl))
  | deliver m =>
    cases m with
    | viewChange m =>
      show OneNV w (handleViewChange w m)
      rcases handleViewChange_cases w m with c | ⟨_, e1⟩
      · rw [c.2]; exact Or.inl rfl
      · rw [e1]; exact checkElected_nv _ _ _
    | _ => exact quiet id
  | _ => exact quiet id

/-- **one event**: from a state satisfying the invariant, an event sends no NEW_VIEW or exactly one,
for a view above the bookkeeping value, which it raises to at least that view -/
theorem step_nv (n : Node) (e : Event) (spi : List Spi) (hi : LVInv n) :
    n.latestNV ≤ (step n e spi).1.latestNV ∧ LVInv (step n e spi).1 ∧
    (nvViews (step n e spi).2 = [] ∨
      ∃ v, nvViews (step n e spi).2 = [v] ∧ n.latestNV < v ∧ v ≤ (step n e spi).1.latestNV) := by
  rw [step_eq]
  obtain ⟨h1, h2⟩ := lv_acts (stepW_acts { n := n, spi := spi } e) hi
  exact ⟨h1, h2, stepW_nv { n := n, spi := spi } e⟩

def runOuts (n : Node) : List (Event × List Spi) → Node × List Out
  | [] => (n, [])
  | (e, spi) :: rest =>
    let r := step n e spi
    let r2 := runOuts r.1 rest
    (r2.1, r.2 ++ r2.2)

/-- an event's NEW_VIEWs against the bookkeeping value, and a whole execution's: strictly increasing from the value
before (exclusive) to the value after (inclusive) -/
theorem step_incr (n : Node) (e : Event) (spi : List Spi) (hi : LVInv n) :
    Incr n.latestNV (nvViews (step n e spi).2) (step n e spi).1.latestNV := by
  obtain ⟨m, _, e0 | ⟨v, ev, lo, up⟩⟩ := step_nv n e spi hi
  · rw [e0]; exact .nil m
  · rw [ev]; exact .single lo up

theorem run_incr (es : List (Event × List Spi)) :
    ∀ (n : Node), LVInv n → Incr n.latestNV (nvViews (runOuts n es).2) (runOuts n es).1.latestNV := by
  induction es with
  | nil => exact fun n _ => .nil (Nat.le_refl _)
  | cons x rest ih =>
    exact fun n hi => nvViews_append .. ▸ (step_incr n x.1 x.2 hi).append (ih _ (step_nv n x.1 x.2 hi).2.1)

/-- **Over every execution, the views of the NEW_VIEWs a node sends are strictly increasing** (so it
never sends two NEW_VIEWs for one view, whatever it receives), and all lie above the initial
bookkeeping value. -/
theorem newview_views_increase (es : List (Event × List Spi)) :
    ∀ (n : Node), LVInv n →
      (nvViews (runOuts n es).2).Pairwise (· < ·) ∧ (∀ v ∈ nvViews (runOuts n es).2, n.latestNV < v) :=
  fun n hi => ⟨(run_incr es n hi).1, fun v hv => ((run_incr es n hi).2.1 v hv).1⟩

/-- corollary in the words of the property: at most one NEW_VIEW per view -/
theorem one_newview_per_view (n : Node) (hi : LVInv n) (es : List (Event × List Spi)) :
    (nvViews (runOuts n es).2).Nodup := by
  have h := (newview_views_increase es n hi).1
  exact h.imp (fun hlt => Nat.ne_of_lt hlt)

theorem lvInv_init (c : Cfg) : LVInv { cfg := c } := Nat.le_refl 0

end LeanHelix.C10
