import LeanHelix.Model.Worker
import LeanHelix.Props.C18
import LeanHelix.Lemmas.TermValidators
import LeanHelix.Props.C03
/-!
# C12 — No received bytes can crash, wedge or permanently disable a node

What Lean carries of this property: the places where the Go code indexes or divides using values
taken from unauthenticated messages, and the places where it indexes `[0]` of a list derived from
stored messages, are shown to be safe in the model for *every* message and state:

* the leader index (`view mod size`) is in range for every 64-bit view and every non-empty
  committee, so `leaderId` never hits its fallback branch;
* the commit path hands a *non-empty* commit list to the block-proof generator (`commitMessages[0]`);
* unreadable content is dropped before it reaches any state: the gate itself (a Go `recover` around
  one full read of the content) is runtime, not Lean; it is exercised by the `bytes` suite, where
  every outcome must be "dropped" (the driver's `garbage` trace event, `Driver/Node.lean`: nothing changes) or "handled"
  exactly as the model handles the decoded message, never a panic, and the running two-loop node
  must still obtain contexts and take an UpdateState afterwards.
The handlers themselves are total Lean functions that the correspondence suites compare with the
real code on mutated and extreme-valued messages.
-/
namespace LeanHelix.C12
open LeanHelix LeanHelix.Msg LeanHelix.Term

/-- for a non-empty committee the leader of any view exists: the model's fallback is unreachable -/
theorem leaderId_total (c : Cfg) (hne : c.members ≠ []) (v : Nat) :
    Leader.leaderOf v c.members = .ok (leaderId c v) ∧ ∃ m ∈ c.members, m.id = leaderId c v := by
  obtain ⟨hlt, h⟩ := C18.leader_total v c.members hne
  refine ⟨?_, ⟨c.members[v % c.members.length], List.getElem_mem _, ?_⟩⟩
  · unfold leaderId; rw [h]
  · unfold leaderId; rw [h]

/-- **the block-proof generator never sees an empty commit list**: whenever the term invokes the
commit callback, the commit messages it passes form a quorum, hence are non-empty (also when the weights
overflow: `h1`, `h2` are not needed, `Term.ne_nil_of_quorum`) -/
theorem commit_callback_has_commits (w : Term.W) (h v hash : Nat)
    (h1 : 1 ≤ LeanHelix.W w.n.cfg.members) (h2 : LeanHelix.W w.n.cfg.members < U64) :
    ∀ b cs, Out.commit b cs ∈ (checkCommitted w h v hash).outs → Out.commit b cs ∉ w.outs → cs ≠ [] := by
  intro b cs hin hnot
  exact ne_nil_of_quorum (C03.commit_callback_payload w h v hash b cs hin hnot).2.1

end LeanHelix.C12
