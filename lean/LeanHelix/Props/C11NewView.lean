import LeanHelix.Props.C11
import LeanHelix.Props.C07
import LeanHelix.Props.C10
/-!
# C11 (NEW_VIEW part) — a correct leader's NEW_VIEW is a valid certificate for every correct peer, and a
valid certificate is adopted

Leader side: the NEW_VIEW the election path sends (`elected_newview_exact`: field by field) satisfies
`C07.ValidCertificate` at every peer with the same configuration whose view is not higher, given what
`handleViewChange` enforces on a vote before storing it (`elected_newview_is_valid_certificate`); with the log
invariant `VCsOK` (`vcs_ok_step`) that is so whenever `checkElected` fires (`checkElected_newview_valid`): **nothing
the leader accepted can make correct followers reject its NEW_VIEW**.  Follower side: `valid_newview_is_adopted`.
-/
namespace LeanHelix.C11
open LeanHelix LeanHelix.Msg LeanHelix.Term

/-- the exact NEW_VIEW of `onElectedByViewChange` -/
def NewViewExact (c : Cfg) (view : Nat) (vcs : List VCMsg) (o : Out) : Prop :=
  ∀ rs nv, o = .send rs (.newView nv) →
    ∃ b hash, nv = ⟨⟨tNV, c.inst, c.height, view, vcs.map (·.c)⟩, mySig c, ⟨mkRef c tPP view hash, mySig c⟩, some b⟩
      ∧ (match latestBlockFromVCs vcs with
         | some (b', h') => b = b' ∧ hash = h'
         | none => hash = b.hash)

theorem newViewExact_benign (c : Cfg) (view : Nat) (vcs : List VCMsg) : Benign (NewViewExact c view vcs) :=
  ⟨fun _ _ _ _ h => (by cases h), fun _ _ _ h => (by cases h), fun _ _ _ _ _ h => (by cases h), fun _ _ _ h => (by cases h)⟩

theorem elected_newview_exact (w : Term.W) (view : Nat) (vcs : List VCMsg) :
    Appends (NewViewExact w.n.cfg view vcs) w (onElectedByViewChange w view vcs) := by
  refine onElectedByViewChange_appends' (newViewExact_benign w.n.cfg view vcs) w view vcs (fun b hash hsel rs nv hnv => ?_)
  simp only [Out.send.injEq, Message.newView.injEq] at hnv
  obtain ⟨_, rfl⟩ := hnv
  refine ⟨b, hash, rfl, ?_⟩
  rcases hsel with hl | ⟨hl, rfl⟩ <;> rw [hl]
  exact ⟨rfl, rfl⟩

/-- what `handleViewChange` enforces on the block of a vote before storing it, as long as no block has the empty hash
(`VoteChecked.block_iff_proof`) -/
def BlockMatches (m : VCMsg) : Prop :=
  (m.block.isSome = m.c.header.proof.isSome) ∧ (m.block.isSome = true → commitmentOk m.block (proofHash m.c.header.proof) = true)

/-- **A correct leader's NEW_VIEW is a valid certificate for every correct peer with the same
configuration whose view is not higher.**  Hypotheses: the sender leads the view (`hlead`); the votes it counted are
of quorum weight (`hq`), pairwise distinct (`hnd`), for (height, view) and pass `isViewChangeValid` at the peer
(`hvalid`), each with a block exactly when it has a proof, the block matching the proven hash (`hblk`) — the
conditions `handleViewChange` enforces before storing a vote, as long as no block has the empty hash. -/
theorem elected_newview_is_valid_certificate (c : Cfg) (view : Nat) (vcs : List VCMsg) (peer : Node)
    (o : Out) (hex : NewViewExact c view vcs o) (rs : List Nat) (nv : NVMsg) (ho : o = .send rs (.newView nv))
    (hcfg : peer.cfg = c)
    (hview : ¬ peer.view > view)
    (hlead : isLeader c c.me view = true)
    (hq : isQuorum c (vcs.map (·.c.sender.id)) = true)
    (hvalid : ∀ m ∈ vcs, m.c.header.height = c.height ∧ m.c.header.view = view ∧ isViewChangeValid peer m.c = true)
    (hnd : (vcs.map (·.c.sender.id)).Nodup)
    (hblk : ∀ m ∈ vcs, BlockMatches m) :
    C07.ValidCertificate peer nv := by
  obtain ⟨b, hash, rfl, hsel⟩ := hex rs nv ho
  have hids : (vcs.map (·.c)).map (·.sender.id) = vcs.map (·.c.sender.id) := by
    rw [List.map_map]; rfl
  refine ⟨rfl, hview, rfl, by rw [hcfg]; exact hlead, by rw [hcfg]; show isQuorum c ((vcs.map (·.c)).map (·.sender.id)) = true; rw [hids]; exact hq,
    ?_, by show ((vcs.map (·.c)).map (·.sender.id)).Nodup; rw [hids]; exact hnd, rfl, rfl, by rw [hcfg]; rfl, ?_⟩
  · intro vc hvc
    obtain ⟨m, hm, rfl⟩ := List.mem_map.mp hvc
    exact hvalid m hm
  · intro lv hlv
    rcases C07.latestBlock_latestVote (fun m hm => (hblk m hm).1) with ⟨hn, _⟩ | ⟨m, hm, b', p, hbk, hpf, hl, hlb⟩
    · cases hn.symm.trans hlv
    · obtain rfl : m.c = lv := Option.some.inj (hl.symm.trans hlv)
      rw [hlb] at hsel
      obtain ⟨rfl, rfl⟩ := hsel
      -- the block commits to the proven hash (`hblk`), and the two references of a valid proof carry the same hash
      have hcm := (hblk m hm).2 (by rw [hbk]; rfl)
      have hvp := ((isViewChangeValid_iff peer m.c).mp (hvalid m hm).2.2).2.2.2.2.2
      rw [hbk, hpf] at hcm
      rw [hpf] at hvp
      show commitmentOk (some b) (proofHash m.c.header.proof) = true ∧ p.pRef.hash = proofHash m.c.header.proof
      rw [hpf]
      exact ⟨hcm, ((validatePreparedProof_some _ _ _ _).mp hvp).2.2.2.2.2.1⟩

/-! ## follower side -/

/-- **A valid certificate is adopted.**  A follower (any state) that receives a NEW_VIEW which is a
valid certificate for it, whose embedded proposal is authentic for it (PREPREPARE-typed, signed by
the leader of the view, no proposal stored for that view yet) and — when no vote carries a proof —
whose fresh block the consumer accepts under a live context, moves to the NEW_VIEW's view and sends
its PREPARE for the embedded proposal to all other members. -/
theorem valid_newview_is_adopted (w : Term.W) (nvm : NVMsg)
    (hv : C07.ValidCertificate w.n nvm)
    (hpp : C08.PreprepareAuthentic w.n ⟨nvm.pp, nvm.block⟩)
    (hfresh : (latestVote nvm.header.votes).isNone = true →
        (askValidate w nvm.header.height nvm.header.view nvm.block nvm.pp.header.hash).2 = true) :
    (handleNewView w nvm).n.view = nvm.header.view
    ∧ Out.send (others w.n.cfg) (.prepare (ownPrepare w.n.cfg nvm.header.height nvm.header.view nvm.pp.header.hash))
        ∈ (handleNewView w nvm).outs := by
  have g := (nvGuards_iff _ _).mpr hv
  obtain ⟨_, hview, e⟩ := (handleNewView_accept_cases w nvm).resolve_left (fun c => c.1 ⟨g, hpp, nvAsk_ok hfresh⟩)
  have had := Adopted.of_eq e (by rw [(nvEnter_spec _ _).store, (nvAsk_calls w nvm).n.store]; exact hpp.free)
  obtain ⟨l, el, _⟩ := had.sent
  refine ⟨had.view.trans hview, ?_⟩
  rw [el, (nvEnter_spec _ _).cfg.trans (nvAsk_calls w nvm).n.cfg, ← g.ppView, ← g.ppHeight]
  exact List.mem_append_right _ (List.mem_cons_self ..)

/-! ## the log of votes stays clean, so the leader's NEW_VIEW is always a valid certificate -/

structure VCsOK (n : Node) : Prop where
  auth : ∀ m ∈ n.store.vcs, VoteChecked n m ∨ m.c.sender = mySig n.cfg
  keys : (n.store.vcs.map vkey).Nodup

theorem vcsOK_init (c : Cfg) : VCsOK { cfg := c } := ⟨(by intro m h; cases h), List.nodup_nil⟩

theorem vcsOK_evolves {a b : Node} (h : Evolves J a b) (ha : VCsOK a) : VCsOK b where
  auth := fun m hm =>
    -- `VoteChecked` looks at the node through `isViewChangeValid`, that is, at its configuration only
    h.vcs (A := fun c m => ∀ n : Node, n.cfg = c → VoteChecked n m ∨ m.c.sender = mySig n.cfg)
      (fun n m hj n' hn => by
        rcases hj with ⟨_, _, v, b12⟩ | ⟨o, _⟩
        · exact Or.inl ⟨by rw [isViewChangeValid_cfg hn]; exact v, b12⟩
        · exact Or.inr (by rw [hn]; exact o))
      (fun m hm n' hn => by
        rcases ha.auth m hm with ⟨v, b12⟩ | o
        · exact Or.inl ⟨by rw [isViewChangeValid_cfg hn]; exact v, b12⟩
        · exact Or.inr (by rw [hn]; exact o)) m hm b rfl
  keys := h.vcs_keys ha.keys

/-- **`VCsOK` is preserved by every event, whatever was received** (`hstart` is not needed: a start logs nothing) -/
theorem vcs_ok_step (n : Node) (e : Event) (spi : List Spi)
    (hstart : ∀ c, e = .start c → n.view = 0) (h : VCsOK n) : VCsOK (step n e spi).1 :=
  vcsOK_evolves (step_ev n e spi) h

/-- **End to end.**  Whenever the election path fires (`checkElected`: quorum of stored votes for
(height, view), the node leads that view), every NEW_VIEW it sends is a valid certificate for every
peer with the same configuration whose view is not higher — provided the log invariant `VCsOK` holds
(every event keeps it, `vcs_ok_step`), the leader's own stored vote passes the checks a received one passed (`hown`:
`own_vote_is_valid_for_peers` for `isViewChangeValid`; the two block checks need the consumer contract A2,
`C11Net.net_own_votes_checked`) and no stored vote's block has the empty hash (`hne`). -/
theorem checkElected_newview_valid (w : Term.W) (view : Nat) (peer : Node)
    (hcfg : peer.cfg = w.n.cfg) (hview : ¬ peer.view > view)
    (hlead : isLeader w.n.cfg w.n.cfg.me view = true)
    (hok : VCsOK w.n)
    (hown : ∀ m ∈ w.n.store.getVCs w.n.cfg.height view, m.c.sender = mySig w.n.cfg → VoteChecked w.n m)
    (hne : ∀ m ∈ w.n.store.getVCs w.n.cfg.height view, ∀ b, m.block = some b → b.hash ≠ emptyBytes) :
    ∃ l, (checkElected w w.n.cfg.height view).outs = w.outs ++ l ∧
      ∀ o ∈ l, ∀ rs nv, o = .send rs (.newView nv) → C07.ValidCertificate peer nv := by
  rcases checkElected_cases w w.n.cfg.height view with ⟨_, e⟩ | ⟨_, hq', e⟩ <;> rw [e]
  · exact ⟨[], by simp, by simp⟩
  obtain ⟨l, el, pl⟩ := elected_newview_exact w view (w.n.store.getVCs w.n.cfg.height view)
  refine ⟨l, el, ?_⟩
  intro o ho rs nv hnv
  have hchk : ∀ m ∈ w.n.store.getVCs w.n.cfg.height view, VoteChecked w.n m := by
    intro m hm
    rcases hok.auth m (mem_getVCs.mp hm).1 with c | c
    · exact c
    · exact hown m hm c
  refine elected_newview_is_valid_certificate w.n.cfg view _ peer o (pl o ho) rs nv hnv hcfg hview hlead hq' ?_
    (getVCs_ids_nodup _ _ _ hok.keys) ?_
  · intro m hm
    obtain ⟨_, h1, h2⟩ := mem_getVCs.mp hm
    exact ⟨h1, h2, by rw [isViewChangeValid_cfg hcfg]; exact (hchk m hm).1⟩
  · exact fun m hm => ⟨(hchk m hm).block_iff_proof (hne m hm), (hchk m hm).2.2⟩

end LeanHelix.C11
