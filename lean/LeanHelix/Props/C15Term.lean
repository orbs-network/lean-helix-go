import LeanHelix.Lemmas.TermCalls
/-!
# C15 (term part) — a result produced under a cancelled or refused context is never broadcast

The block `RequestNewBlockProposal` returns is used only if its context was handed out and is still live when the
call returns, whatever the main loop cancelled meanwhile (`askProposal_some_live`).  When the request yields nothing
(context refused, or cancelled during the call) the election path sends no NEW_VIEW and stores no proposal
(`no_newview_without_live_proposal`), likewise the start of the term for the PREPREPARE of view 0
(`start_no_proposal_without_live_context`).  A proposal validated under a context that is done when the consumer
returns is treated as rejected, whatever the consumer answered (`validation_under_dead_context_rejects`).
-/
namespace LeanHelix.C15
open LeanHelix LeanHelix.Msg LeanHelix.Term

/-- the block is handed on only if the context was issued and is live after the call -/
theorem askProposal_some_live (w : Term.W) (h v : Nat) (b : Block) (hb : (askProposal w h v).2 = some b) :
    ∃ id cd rest, (ctxFor w h v).2 = some id ∧ ((ctxFor w h v).1.emit (.callRequest h)).spi = .proposal b cd :: rest
      ∧ ctxDone (askProposal w h v).1 id = false :=
  askProposal_some hb

def NoProposal (o : Out) : Prop :=
  match o with
  | .send _ (.newView _) => False
  | .send _ (.preprepare _) => False
  | _ => True

theorem noProposal_benign : Benign NoProposal := ⟨fun _ _ => trivial, fun _ => trivial, fun _ _ _ => trivial, fun _ => trivial⟩

/-- **Elected, no vote carries a block, and the proposal request yields nothing (its context was
refused or cancelled during the call): nothing is proposed** — no NEW_VIEW is sent, the log is unchanged.
`hnone` speaks of every state with the registry, the pending SPI answers and the configuration the node has when it
asks (after `initView`): the outcome of the request depends on nothing else. -/
theorem no_newview_without_live_proposal (w : Term.W) (view : Nat) (vcs : List VCMsg)
    (hnb : latestBlockFromVCs vcs = none)
    (hnone : ∀ w1 : Term.W, w1.n.reg = (initView { w with n := { w.n with latestNV := view } } view).1.n.reg →
      w1.spi = (initView { w with n := { w.n with latestNV := view } } view).1.spi → w1.n.cfg = w.n.cfg →
      (askProposal w1 w1.n.cfg.height view).2 = none) :
    Appends NoProposal w (onElectedByViewChange w view vcs)
    ∧ (onElectedByViewChange w view vcs).n.store = w.n.store := by
  have i := nvEnter_spec w view
  have h0 := nvEnter_appends noProposal_benign w view
  have hq := hnone (nvEnter w view).1 rfl rfl i.cfg
  obtain ⟨w1, c, e | ⟨_, b, hash, hl | ⟨_, _, ha⟩, _⟩⟩ := onElectedByViewChange_sends w view vcs
  · rw [e]; exact ⟨h0.trans (c.appends noProposal_benign), c.n.store.trans i.store⟩
  · cases hnb.symm.trans hl
  · cases hq.symm.trans (congrArg Prod.snd ha)

/-- **View 0: when the proposal request yields nothing, no PREPREPARE is sent** and the log is unchanged (`hnone` as
above). -/
theorem start_no_proposal_without_live_context (w : Term.W) (c : Bool)
    (hnone : ∀ w1 : Term.W, w1.n.reg = (initView { w with n := { w.n with prepared := none } } 0).1.n.reg →
      w1.spi = (initView { w with n := { w.n with prepared := none } } 0).1.spi → w1.n.cfg = w.n.cfg →
      (askProposal w1 w1.n.cfg.height 0).2 = none) :
    Appends NoProposal w (startTerm w c) ∧ (startTerm w c).n.store = w.n.store := by
  have h0 : Appends NoProposal w (({ w with n := { w.n with prepared := none } } : Term.W).enterView 0) :=
    Appends.emit_trans _ (Appends.of_outs_eq rfl) trivial
  rcases startTerm_cases w c with ⟨_, e⟩ | ⟨hv, ⟨_, e⟩ | ⟨_, _, ⟨_, e⟩ | ⟨_, hb, _⟩⟩⟩
  · rw [e]; exact ⟨Appends.refl _ _, rfl⟩
  · rw [e]; exact ⟨h0, rfl⟩
  · rw [e]
    exact ⟨h0.trans ((askProposal_calls ..).appends noProposal_benign), (askProposal_calls ..).n.store⟩
  · have hi : (initView { w with n := { w.n with prepared := none } } 0).1
        = ({ w with n := { w.n with prepared := none } } : Term.W).enterView 0 := by
      rw [initView_eq, if_neg (Nat.not_lt.mpr (Nat.le_of_eq hv))]
    rw [hi] at hnone
    cases hb.symm.trans (hnone _ rfl rfl rfl)

/-- **A validation whose context is done when the consumer returns counts as a rejection**, whatever
the consumer answered; so does one whose context was refused. -/
theorem validation_under_dead_context_rejects (w : Term.W) (h v : Nat) (b : Option Block) (hash : Nat)
    (hok : (askValidate w h v b hash).2 = true) :
    ∃ id, (ctxFor w h v).2 = some id ∧ ctxDone (askValidate w h v b hash).1 id = false :=
  let ⟨id, _, _, hc, _, _, hd⟩ := askValidate_true hok; ⟨id, hc, hd⟩

end LeanHelix.C15
