import LeanHelix.Model.Filter
import LeanHelix.Lemmas.Cache
/-!
# C17 — Height filter and future cache deliver each message to its own height only

Theorems about the model of `RawMessageFilter` + the re-entrant drain (`Model/Filter.lean`), for
every sequence of receive / start-round operations, every nesting of round starts inside
deliveries (`script`), and every amount of fuel.
`f.log` is the ghost list of deliveries `(height of the receiving term, message)`.
-/
namespace LeanHelix.C17
open LeanHelix.Filter

/-! ## what the operations do -/

/-- One delivery of the drain loop: the handler `(t, committed)` receives `m`; a message that completes
the round makes the worker start the round of `t + m.script` inside the delivery. -/
def deliver (fuel : Nat) (f : Filt) (t : Nat) (committed : Bool) (m : FMsg) : Filt :=
  if m.script > 0 && !committed then advance fuel (markCommitted (logDelivery f t m) t) (t + m.script)
  else logDelivery f t m

/-- the drain loop; its nested round start is `advance` -/
theorem drain_cons (fuel : Nat) (f : Filt) (height : Nat) (m : FMsg) (rest : List FMsg) :
    drain (fuel + 1) f height (m :: rest) =
      if f.stateHeight != height then f
      else match f.handler with
        | none => drain fuel f height rest
        | some (t, committed) => drain fuel (deliver fuel f t committed m) height rest := by
  simp only [deliver, advance, apply_ite (drain fuel · height rest)]
  rfl

theorem recv_cases (fuel : Nat) (f : Filt) (m : FMsg) :
    recv fuel f m = f ∨ (m.inst = f.inst ∧ m.sender ≠ f.me) ∧
      (f.stateHeight < m.height ∧ recv fuel f m = pushToCache f m ∨
       m.height = f.stateHeight ∧ recv fuel f m = drain fuel f m.height [m]) := by
  unfold recv
  by_cases h1 : (m.sender == f.me) = true
  · exact .inl (if_pos h1)
  rw [if_neg h1]
  by_cases h2 : m.height < f.stateHeight
  · exact .inl (if_pos h2)
  rw [if_neg h2]
  by_cases h3 : (m.inst != f.inst) = true
  · exact .inl (if_pos h3)
  rw [if_neg h3]
  refine .inr ⟨⟨by simpa using h3, by simpa using h1⟩, ?_⟩
  by_cases h4 : m.height > f.stateHeight
  · exact .inl ⟨h4, if_pos h4⟩
  · exact .inr ⟨by omega, if_neg h4⟩

theorem pushToCache_cases (f : Filt) (m : FMsg) :
    m.height < f.latest ∧ pushToCache f m = f ∨
    ∃ c, (m.height = f.latest ∧ c = f.cache ∨ f.latest < m.height ∧ c = clearEarlier f.cache m.height) ∧
      pushToCache f m = { f with cache := cacheAppend c m.height m, latest := m.height } := by
  unfold pushToCache
  by_cases h1 : m.height < f.latest
  · exact .inl ⟨h1, if_pos h1⟩
  rw [if_neg h1]
  by_cases h2 : m.height > f.latest
  · exact .inr ⟨_, .inr ⟨h2, rfl⟩, if_pos h2⟩
  · have e : m.height = f.latest := by omega
    exact .inr ⟨_, .inl ⟨e, rfl⟩, by rw [if_neg h2, e]⟩

/-! ## the cache -/

theorem cacheGet_cons (p : Nat × List FMsg) (r : List (Nat × List FMsg)) (h : Nat) :
    cacheGet (p :: r) h = if p.1 = h then p.2 else cacheGet r h := by
  unfold cacheGet
  by_cases hk : p.1 = h <;> simp [hk]

/-- what `cacheAppend` does to an entry that is there already -/
def addTo (h : Nat) (m : FMsg) (p : Nat × List FMsg) : Nat × List FMsg :=
  if p.1 == h then (p.1, p.2 ++ [m]) else p

theorem addTo_eq (h : Nat) (m : FMsg) (p : Nat × List FMsg) :
    addTo h m p = (p.1, if p.1 = h then p.2 ++ [m] else p.2) := by
  unfold addTo
  by_cases hk : p.1 = h <;> simp [hk]

theorem cacheAppend_cons (p : Nat × List FMsg) (r : List (Nat × List FMsg)) (h : Nat) (m : FMsg) :
    cacheAppend (p :: r) h m =
      if p.1 = h then (p.1, p.2 ++ [m]) :: r.map (addTo h m) else p :: cacheAppend r h m := by
  unfold cacheAppend
  rw [List.any_cons, List.map_cons]
  by_cases hk : p.1 = h
  · have hb : (p.1 == h) = true := by simpa using hk
    rw [if_pos hk, hb, Bool.true_or, if_pos rfl, if_pos rfl]
    rfl
  · have hb : (p.1 == h) = false := by simpa using hk
    rw [if_neg hk, hb, Bool.false_or, if_neg Bool.false_ne_true]
    exact (apply_ite (p :: ·) ..).symm

/-! ## the invariant -/

def Legit (me inst h : Nat) (m : FMsg) : Prop := m.height = h ∧ m.inst = inst ∧ m.sender ≠ me

/-- every cached message is legitimate for the height it is cached under (`Cache.All`: kept by `clearEarlier` /
`cacheErase`, which filter, by `cacheAppend`, and inherited by `cacheGet`) -/
abbrev CacheOk (me inst : Nat) (c : List (Nat × List FMsg)) : Prop := Cache.All (Legit me inst) c

theorem cacheOk_get {me inst : Nat} {c : List (Nat × List FMsg)} (h : CacheOk me inst c) (k : Nat) :
    ∀ m ∈ cacheGet c k, Legit me inst k m := by
  intro m hm
  unfold cacheGet at hm
  split at hm
  · exact h.find ‹_› m hm
  · cases hm

structure Inv (me inst : Nat) (f : Filt) : Prop where
  me_eq : f.me = me
  inst_eq : f.inst = inst
  handler_height : ∀ t c, f.handler = some (t, c) → t = f.stateHeight
  cache_ok : CacheOk me inst f.cache
  log_ok : ∀ e ∈ f.log, Legit me inst e.1 e.2

theorem inv_init (me inst : Nat) : Inv me inst { me := me, inst := inst } :=
  ⟨rfl, rfl, fun _ _ h => (nomatch h), fun _ hp => (nomatch hp), fun _ he => (nomatch he)⟩

theorem inv_logDelivery {me inst : Nat} {f : Filt} (h : Inv me inst f) {t : Nat} {m : FMsg}
    (hm : Legit me inst t m) : Inv me inst (logDelivery f t m) := by
  refine { h with log_ok := ?_ }
  intro e he
  rcases List.mem_append.mp he with he | he
  · exact h.log_ok e he
  · cases List.mem_singleton.mp he; exact hm

theorem inv_markCommitted {me inst : Nat} {f : Filt} (h : Inv me inst f) {t : Nat} (ht : t = f.stateHeight) :
    Inv me inst (markCommitted f t) := by
  refine { h with handler_height := ?_ }
  intro t' c' he
  cases he; exact ht

theorem inv_startRound {me inst : Nat} {f : Filt} (h : Inv me inst f) (hh : Nat) :
    Inv me inst (startRound f hh) := by
  refine { h with handler_height := ?_, cache_ok := h.cache_ok.filter _ }
  intro t' c' he
  cases he; rfl

theorem inv_finishDrain {me inst : Nat} {f : Filt} (h : Inv me inst f) (hh : Nat) :
    Inv me inst (finishDrain f hh) :=
  { h with cache_ok := h.cache_ok.filter _ }

theorem inv_pushToCache {me inst : Nat} {f : Filt} (h : Inv me inst f) {m : FMsg}
    (hm : Legit me inst m.height m) : Inv me inst (pushToCache f m) := by
  rcases pushToCache_cases f m with ⟨_, e⟩ | ⟨c, hc, e⟩
  · rw [e]; exact h
  · rw [e]
    refine { h with cache_ok := Cache.All.append ?_ hm }
    rcases hc with ⟨_, rfl⟩ | ⟨_, rfl⟩
    · exact h.cache_ok
    · exact h.cache_ok.filter _

/-- relative to the drain of the same fuel: inside `drain_inv` that is the induction hypothesis -/
theorem inv_advance {me inst fuel : Nat}
    (hd : ∀ f height msgs, Inv me inst f → (∀ m ∈ msgs, Legit me inst height m) →
      Inv me inst (drain fuel f height msgs))
    {f : Filt} (h : Inv me inst f) (hh : Nat) : Inv me inst (advance fuel f hh) := by
  unfold advance
  split
  · exact h
  · have hs := inv_startRound h hh
    exact inv_finishDrain (hd _ hh _ hs (cacheOk_get hs.cache_ok hh)) hh

theorem drain_inv {me inst : Nat} (fuel : Nat) : ∀ (f : Filt) (height : Nat) (msgs : List FMsg),
    Inv me inst f → (∀ m ∈ msgs, Legit me inst height m) → Inv me inst (drain fuel f height msgs) := by
  induction fuel with
  | zero => intro f _ _ h _; exact h
  | succ fuel ih =>
    intro f height msgs h hm
    cases msgs with
    | nil => exact h
    | cons m rest =>
      have hrest : ∀ x ∈ rest, Legit me inst height x := fun x hx => hm x (List.mem_cons_of_mem _ hx)
      rw [drain_cons]
      split
      · exact h
      next hne =>
        have heq : f.stateHeight = height := by simpa using hne
        split
        · exact ih f height rest h hrest
        next t c hh =>
          -- the delivery, and the round start inside it if `m` completes the round
          have ht : t = f.stateHeight := h.handler_height t c hh
          have hm0 : Legit me inst t m := by rw [ht, heq]; exact hm m (List.mem_cons_self ..)
          have hl := inv_logDelivery h hm0
          refine ih _ height rest ?_ hrest
          unfold deliver
          split
          · exact inv_advance ih (inv_markCommitted hl ht) _
          · exact hl

theorem step_inv {me inst : Nat} (fuel : Nat) (f : Filt) (op : Op) (h : Inv me inst f) :
    Inv me inst (step fuel f op) := by
  cases op with
  | recv m =>
    show Inv me inst (recv fuel f m)
    rcases recv_cases fuel f m with e | ⟨⟨hi, hs⟩, hcase⟩
    · rw [e]; exact h
    · have hl : Legit me inst m.height m := ⟨rfl, h.inst_eq ▸ hi, h.me_eq ▸ hs⟩
      rcases hcase with ⟨_, e⟩ | ⟨_, e⟩
      · rw [e]; exact inv_pushToCache h hl
      · rw [e]; exact drain_inv fuel f m.height [m] h (List.forall_mem_singleton.mpr hl)
  | advance hh => exact inv_advance (drain_inv fuel) h hh

def run (fuel : Nat) (f : Filt) (ops : List Op) : Filt := ops.foldl (step fuel) f

theorem run_inv {me inst : Nat} (fuel : Nat) (ops : List Op) (f : Filt) (h : Inv me inst f) :
    Inv me inst (run fuel f ops) :=
  List.foldlRecOn ops (step fuel) h fun f h o _ => step_inv fuel f o h

/-- **A consensus message reaches the protocol logic of a term only if its height equals that
term's height, its instance id is this instance's and its sender is not this node** — for every
sequence of receive / start-round operations, however deliveries nest. -/
theorem delivered_only_to_own_height (fuel me inst : Nat) (ops : List Op) :
    ∀ e ∈ (run fuel { me := me, inst := inst } ops).log,
      e.2.height = e.1 ∧ e.2.inst = inst ∧ e.2.sender ≠ me :=
  (run_inv fuel ops _ (inv_init me inst)).log_ok

/-- **Messages for lower heights, own messages and other instances' messages are dropped**: the
filter's state (cache, log, everything) is unchanged. -/
theorem past_own_foreign_dropped (fuel : Nat) (f : Filt) (m : FMsg)
    (h : m.height < f.stateHeight ∨ m.sender = f.me ∨ m.inst ≠ f.inst) : recv fuel f m = f := by
  rcases recv_cases fuel f m with e | ⟨⟨hi, hs⟩, hh⟩
  · exact e
  · have hge : f.stateHeight ≤ m.height := by rcases hh with ⟨h', _⟩ | ⟨h', _⟩ <;> omega
    rcases h with h | h | h
    · omega
    · exact absurd h hs
    · exact absurd hi h

/-- **A message for a future height is only stored, never delivered at receipt.** -/
theorem future_not_delivered_at_receipt (fuel : Nat) (f : Filt) (m : FMsg) (h : m.height > f.stateHeight) :
    (recv fuel f m).log = f.log := by
  rcases recv_cases fuel f m with e | ⟨_, ⟨_, e⟩ | ⟨h', _⟩⟩
  · rw [e]
  · rw [e]
    rcases pushToCache_cases f m with ⟨_, e⟩ | ⟨c, _, e⟩ <;> rw [e]
  · omega

/-! ## non-vacuity: a nested drain — the first cached message of height 1 completes the round, so the
second is not delivered (the installed handler is then the term of height 2) -/
example :
    let f := run 100 { me := 1, inst := 7 }
      [.recv ⟨1, 1, 7, 3, 1⟩, .recv ⟨2, 1, 7, 2, 0⟩, .advance 1]
    f.log.map (fun e => (e.1, e.2.uid)) = [(1, 1)] ∧ f.stateHeight = 2 := by decide

end LeanHelix.C17
