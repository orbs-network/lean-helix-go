import LeanHelix.Props.C10
import LeanHelix.Props.C03
/-!
# C04 — External validity: only proposals the consumer validated can be committed

Over the Term model, for every state, message and SPI answer.  A node adopts a proposal (stores it and sends
PREPARE) in two ways only (`adopted_proposal_is_validated_or_certified`): (a) its own consumer's
`ValidateBlockProposal` returned nil for exactly the (block, hash) the event carries — the case of a bare PREPREPARE
and of a NEW_VIEW whose votes carry no proof; (b) the NEW_VIEW's votes carry a prepared proof, the one of the highest
view among them is valid, the proposal's signed hash is the hash it certifies and the attached block commits to it.
A proposal the consumer rejects is never adopted through (a) (`rejected_everywhere_never_adopted_fresh`).  What is
committed is a stored proposal (`committed_block_is_the_stored_proposal`), and stored proposals are from the leader of
their view (`ProposalsOK`).

The step from (b) to "some correct member's consumer validated the block" — a valid prepared certificate contains a
correct member that adopted the same (view, hash); induction on the view — is made over the network model:
`C04Net.net_validity`.
-/
namespace LeanHelix.C04
open LeanHelix LeanHelix.Msg LeanHelix.Term LeanHelix.C10

/-- **A node sends PREPARE only for a proposal its own consumer validated in this very event (a), or one that the
votes of the delivered NEW_VIEW certify (b).** -/
theorem adopted_proposal_is_validated_or_certified (n : Node) (e : Event) (spi : List Spi) (rs : List Nat) (pm : PMsg)
    (hsend : Out.send rs (.prepare pm) ∈ (step n e spi).2) :
    -- (a) the node's own consumer validated exactly this (block, hash) in this event
    (∃ ppm cd rest, proposalOf e = some ppm ∧ spi = Spi.verdict true cd :: rest
        ∧ Out.callValidate ppm.c.header.height ppm.block ppm.c.header.hash ∈ (step n e spi).2)
    -- (b) or the proposal is the one certified by the highest-view proof among the NEW_VIEW's votes, which is valid
    ∨ (∃ nvm lv, e = .deliver (.newView nvm) ∧ latestVote nvm.header.votes = some lv
        ∧ nvm.pp.header.hash = proofHash lv.header.proof
        ∧ commitmentOk nvm.block nvm.pp.header.hash = true
        ∧ validatePreparedProof n.cfg n.cfg.height nvm.header.view lv.header.proof = true) := by
  have hsend' := hsend
  rw [step_eq] at hsend ⊢
  rcases stepW_prepare_cases { n := n, spi := spi } e with hq | ⟨ppm, w1, hsrc, _, _, _, _, had, hval⟩
  · exact absurd (hq rs pm hsend) List.not_mem_nil
  rcases hsrc with ⟨rfl, _⟩ | ⟨nvm, rfl, rfl, _⟩
  · obtain ⟨cd, rest, hspi, hcall⟩ := hval (fun _ h => nomatch h)
    exact .inl ⟨_, cd, rest, rfl, hspi, had.grows hcall⟩
  · cases hlv : latestVote nvm.header.votes with
    | none =>
      obtain ⟨cd, rest, hspi, hcall⟩ := hval (fun _ h => by cases h; exact hlv)
      exact .inl ⟨_, cd, rest, rfl, hspi, had.grows hcall⟩
    | some lv =>
      have hs : Out.send rs (.prepare pm) ∈ (handleNewView { n := n, spi := spi } nvm).outs := hsend'
      obtain ⟨_, _, hh, hc, hv⟩ := C07.accepted_newview_reproposes_lock { n := n, spi := spi } nvm
        (fun heq => by rw [heq] at hs; cases hs) lv hlv
      exact .inr ⟨nvm, lv, rfl, hlv, hh, hc, hv⟩

/-- **a (block, hash) the consumer rejects is never adopted through a fresh proposal**: with the
verdict `false` a bare PREPREPARE, and a NEW_VIEW whose votes carry no proof, produce no PREPARE -/
theorem rejected_everywhere_never_adopted_fresh (n : Node) (e : Event) (cd : Option Nat) (rest : List Spi)
    (rs : List Nat) (pm : PMsg)
    (hfresh : (∃ m, e = .deliver (.preprepare m)) ∨ (∃ m, e = .deliver (.newView m) ∧ latestVote m.header.votes = none)) :
    Out.send rs (.prepare pm) ∉ (step n e (Spi.verdict false cd :: rest)).2 := by
  intro hsend
  rcases adopted_proposal_is_validated_or_certified n e _ rs pm hsend with ⟨_, _, _, _, hspi, _⟩ | ⟨nvm, lv, he, hlv, _⟩
  · cases hspi
  · rcases hfresh with ⟨m, hm⟩ | ⟨m, hm, hnone⟩
    · rw [hm] at he; cases he
    · rw [hm] at he; injection he with he; injection he with he
      subst he; rw [hnone] at hlv; cases hlv

theorem committed_block_is_the_stored_proposal (w : Term.W) (h v hash : Nat) (b : Block) (cs : List CMsg)
    (hin : Out.commit b cs ∈ (checkCommitted w h v hash).outs) (hnot : Out.commit b cs ∉ w.outs) :
    ∃ ppm, w.n.store.getPP h v = some ppm ∧ ppm.block = some b ∧ ppm.c.header.hash = hash :=
  (C03.commit_callback_payload w h v hash b cs hin hnot).2.2

/-- every stored proposal is PREPREPARE-typed and signed (verifying signature) by the leader of its
view, or is the node's own proposal in a view it leads; kept by every justified insert
(`stored_proposals_are_from_the_leader`) -/
def ProposalsOK (n : Node) : Prop :=
  ∀ ppm ∈ n.store.pps, ppm.c.header.mtype = tPP ∧ isLeader n.cfg ppm.c.sender.id ppm.c.header.view = true
    ∧ (ppm.c.sender.ok = true ∨ ppm.c.sender = mySig n.cfg)

theorem stored_proposals_are_from_the_leader {a b : Node} (hev : Evolves J a b) (ha : ProposalsOK a) : ProposalsOK b :=
  hev.pps (A := fun c ppm => ppm.c.header.mtype = tPP ∧ isLeader c ppm.c.sender.id ppm.c.header.view = true
      ∧ (ppm.c.sender.ok = true ∨ ppm.c.sender = mySig c))
    (fun _ _ hj => by
      rcases hj with ⟨⟨t, ok, l, _⟩, _⟩ | ⟨sg, t, _, _, _, _, l⟩
      · exact ⟨t, l, Or.inl ok⟩
      · exact ⟨t, by rw [sg]; exact l, Or.inr sg⟩) ha

end LeanHelix.C04
