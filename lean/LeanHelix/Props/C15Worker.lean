import LeanHelix.Lemmas.TermReg
import LeanHelix.Lemmas.WorkerActs
/-!
# C15 — the registry invariant in every reachable state of the worker model

The worker (`Model/Worker.lean`) applies nothing but registry operations to its context registry: its own
`For` calls (the round-level and term-level contexts of `onNewConsensusRound`), the main loop's
`CancelOlderThan` / `Shutdown`, and whatever the installed term does (`Term.Acts.rr`; the registry is
threaded through `withTerm`).  Hence `C15.Inv` — and every theorem of `Props/C15Registry.lean` — holds of
the registry in every state the worker reaches from its initial state, over every sequence of worker
events (deliveries, cache drains, commits and round starts nested in deliveries, syncs, elections).
-/
namespace LeanHelix.C15W
open LeanHelix LeanHelix.Msg LeanHelix.Worker LeanHelix.Contexts
open LeanHelix.Term (RegRun)

theorem act_regRun {G : Prop} {a b : WW} (h : Act G a b) : RegRun a.n.reg b.n.reg := by
  have hand : ∀ (t : Term.Node) (m : Message), RegRun a.n.reg (handInTerm a t m).1.n.reg := fun t m => by
    rw [handInTerm_eq]; exact (Term.handle_acts _ m).rr
  cases h with
  | reg op => exact .one _ _
  | start h c hlt =>
    have h0 : RegRun a.n.reg (Contexts.step a.n.reg (.for_ ⟨h, Term.maxView⟩)).1 := .one _ _
    rcases (installTerm_spec { a with n := { a.n with height := h } } h c).term with ⟨_, e⟩ | ⟨ms, sp, _, _, _, e⟩ <;> rw [e]
    · exact h0
    · exact h0.trans (Term.startTerm_acts _ c).rr
  | hand t m => exact hand t m
  | commit t m b cs => exact hand t m
  | elect t h v => exact (Term.election_acts _ h v).rr
  | _ => exact .refl _

/-- **one worker event changes the registry by registry operations only** -/
theorem wstep_regRun (fuel : Nat) (n : WNode) (e : WEvent) (spi : List WSpi) : RegRun n.reg (Worker.step fuel n e spi).1.reg := by
  obtain ⟨w', ha, hs⟩ := step_acts (G := False) fuel n e spi nofun
  rw [hs]
  exact ha.rel (R := fun a b => RegRun a.n.reg b.n.reg) (fun _ => .refl _) .trans act_regRun

/-- **the registry invariant of C15 holds in every state the worker reaches** -/
theorem worker_reg_inv (fuel me inst : Nat) (es : List (WEvent × List WSpi)) :
    C15.Inv (es.foldl (fun n x => (Worker.step fuel n x.1 x.2).1) ({ me := me, inst := inst } : WNode)).reg :=
  run_inv (P := fun n => C15.Inv n.reg) (fun n e spi => (wstep_regRun fuel n e spi).inv) es _ C15.inv_init

/-- read off: whenever the worker — in any reachable state — obtains a context from its registry, that
context is live at that moment -/
theorem worker_handed_out_is_live (fuel me inst : Nat) (es : List (WEvent × List WSpi)) (hv : State.HV) (id : Nat)
    (hres : (Contexts.step (es.foldl (fun n x => (Worker.step fuel n x.1 x.2).1) ({ me := me, inst := inst } : WNode)).reg (.for_ hv)).2 = .ctx id) :
    Contexts.done (Contexts.step (es.foldl (fun n x => (Worker.step fuel n x.1 x.2).1) ({ me := me, inst := inst } : WNode)).reg (.for_ hv)).1 id = false :=
  (C15.handed_out_is_live _ (worker_reg_inv fuel me inst es) hv id hres).1

end LeanHelix.C15W
