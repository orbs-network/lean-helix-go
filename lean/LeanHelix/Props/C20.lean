import LeanHelix.Model.Wire
/-!
# C20: round trip of the wire format

`decode (encode x) = some x` for every LeanHelix wire structure (well-formed = everything fits its
size header), tolerance of trailing bytes, the reader hands back exactly the bytes that were signed,
and `encode` is injective on well-formed values.
-/
namespace LeanHelix.C20
open LeanHelix.Wire

/-! ## little endian -/

theorem leN_length (k n : Nat) : (leN k n).length = k := by
  induction k generalizing n with
  | zero => rfl
  | succ k ih => simp [leN, ih]

theorem deLE_leN (k n : Nat) : deLE (leN k n) = n % 256 ^ k := by
  induction k generalizing n with
  | zero => simp [leN, deLE, Nat.mod_one]
  | succ k ih =>
    simp only [leN, deLE, ih]
    rw [Nat.pow_succ', Nat.mod_mul]
    have : (UInt8.ofNat (n % 256)).toNat = n % 256 := by
      rw [UInt8.toNat_ofNat']; exact Nat.mod_eq_of_lt (Nat.mod_lt n (by decide))
    rw [this]

theorem deLE_leN_of_lt {k n : Nat} (h : n < 256 ^ k) : deLE (leN k n) = n := by
  rw [deLE_leN, Nat.mod_eq_of_lt h]

@[simp] theorem le16_length (n : Nat) : (le16 n).length = 2 := leN_length 2 n
@[simp] theorem le32_length (n : Nat) : (le32 n).length = 4 := leN_length 4 n
@[simp] theorem le64_length (n : Nat) : (le64 n).length = 8 := leN_length 8 n
@[simp] theorem zeros_length (n : Nat) : (zeros n).length = n := by simp [zeros]

theorem de16_le16 {n : Nat} (h : n < 65536) (t : Bytes) : de16 (le16 n ++ t) = n := by
  unfold de16; rw [List.take_left' (le16_length n)]; exact deLE_leN_of_lt (k := 2) h
theorem de32_le32 {n : Nat} (h : n < 4294967296) (t : Bytes) : de32 (le32 n ++ t) = n := by
  unfold de32; rw [List.take_left' (le32_length n)]; exact deLE_leN_of_lt (k := 4) h
theorem de64_le64 {n : Nat} (h : n < 18446744073709551616) (t : Bytes) : de64 (le64 n ++ t) = n := by
  unfold de64; rw [List.take_left' (le64_length n)]; exact deLE_leN_of_lt (k := 8) h

/-! ## reader primitives against writer primitives -/

theorem skip_zeros (n : Nat) (x : Bytes) : skip n (zeros n ++ x) = some x := by
  unfold skip
  have h : n ≤ (zeros n ++ x).length := by simp
  rw [if_pos h, List.drop_left' (zeros_length n)]

theorem rdLE_leN {k n : Nat} (h : n < 256 ^ k) (x : Bytes) : rdLE k (leN k n ++ x) = some (n, x) := by
  unfold rdLE
  have hl : k ≤ (leN k n ++ x).length := by simp [leN_length]
  rw [if_pos hl, List.take_left' (leN_length k n), List.drop_left' (leN_length k n), deLE_leN_of_lt h]

theorem rdBlob_blob {c : Bytes} (h : c.length < 4294967296) (x : Bytes) :
    rdBlob (le32 c.length ++ (c ++ x)) = some (c, x) := by
  unfold rdBlob le32
  rw [rdLE_leN (k := 4) h]
  simp


theorem isEmpty_append_of_pos {l : Bytes} (h : 0 < l.length) (t : Bytes) : (l ++ t).isEmpty = false := by
  cases l with
  | nil => simp at h
  | cons a l => rfl

/-! ## arrays -/
theorem parseArrF_nil (fuel : Nat) : parseArrF fuel [] = [] := by
  cases fuel <;> rfl

/-- an element is followed by nothing, or by its padding and the next element: either way the reader's
cursor, aligned up, is at the rest of the array -/
theorem writeArr_cons (c : Bytes) (cs : List Bytes) :
    ∃ r, writeArr (c :: cs) = le32 c.length ++ (c ++ r) ∧ r.drop (padLen 4 c.length) = writeArr cs := by
  cases cs with
  | nil => exact ⟨[], by simp [writeArr], List.drop_nil⟩
  | cons c' cs =>
    exact ⟨zeros (padLen 4 c.length) ++ writeArr (c' :: cs), by simp [writeArr], List.drop_left' (zeros_length _)⟩

theorem parseArrF_writeArr (cs : List Bytes) :
    ∀ fuel, (∀ c ∈ cs, c.length < 4294967296) → cs.length ≤ fuel → parseArrF fuel (writeArr cs) = cs := by
  induction cs with
  | nil => intro fuel _ _; exact parseArrF_nil fuel
  | cons c cs ih =>
    intro fuel hc hf
    cases fuel with
    | zero => simp at hf
    | succ fuel =>
      obtain ⟨r, e, hr⟩ := writeArr_cons c cs
      rw [e, parseArrF, isEmpty_append_of_pos (by simp), rdBlob_blob (hc c (List.mem_cons_self ..))]
      simp only [Bool.false_eq_true, if_false, hr]
      rw [ih fuel (fun x hx => hc x (List.mem_cons_of_mem _ hx)) (by simpa using hf)]

theorem writeArr_length_ge (cs : List Bytes) : cs.length ≤ (writeArr cs).length := by
  induction cs with
  | nil => simp
  | cons c cs ih =>
    obtain ⟨r, e, hr⟩ := writeArr_cons c cs
    have := congrArg List.length hr
    simp only [List.length_drop] at this
    simp only [e, List.length_append, le32_length, List.length_cons]; omega

theorem parseArr_writeArr (cs : List Bytes) (h : ∀ c ∈ cs, c.length < 4294967296) :
    parseArr (writeArr cs) = cs :=
  parseArrF_writeArr cs _ h (writeArr_length_ge cs)

/-! ## one field -/

theorem read_write (ft : FT) (fv : FV) (off : Nat) (t : Bytes) (h : fv.ok ft = true) :
    ft.read off (fv.write off ++ t) = some (fv, t) := by
  cases ft <;> cases fv <;> simp only [FV.ok, Bool.false_eq_true, Bool.and_eq_true, decide_eq_true_eq] at h
  case u16.u16 n =>
    simp only [FT.read, FV.write, List.append_assoc, skip_zeros]
    unfold le16; rw [rdLE_leN (k := 2) h]
  case u64.u64 n =>
    simp only [FT.read, FV.write, List.append_assoc, skip_zeros]
    unfold le64; rw [rdLE_leN (k := 8) h]
  case bytes.bytes b =>
    simp only [FT.read, FV.write, List.append_assoc, skip_zeros, rdBlob_blob h]
  case msg.msg c =>
    simp only [FT.read, FV.write, List.append_assoc, skip_zeros, rdBlob_blob h]
  case msgArr.msgArr cs =>
    simp only [FT.read, FV.write, List.append_assoc, skip_zeros, rdBlob_blob h.2,
      parseArr_writeArr cs (by simpa using h.1)]
  case union.union k i c =>
    obtain ⟨⟨h1, h2⟩, h3⟩ := h
    simp only [FT.read, FV.write, List.append_assoc, skip_zeros]
    unfold le16; rw [rdLE_leN (k := 2) h2]
    simp only [skip_zeros, rdBlob_blob h3]
    rw [if_neg (by omega)]

theorem write_ne_nil (fv : FV) (off : Nat) : 0 < (fv.write off).length := by
  cases fv <;> simp only [FV.write, List.length_append, le16_length, le32_length, le64_length] <;> omega

/-! ## whole messages -/

theorem writeFrom_cons_isEmpty (off : Nat) (fv : FV) (fvs : List FV) (t : Bytes) :
    (writeFrom off (fv :: fvs) ++ t).isEmpty = false := by
  rw [writeFrom, List.append_assoc]; exact isEmpty_append_of_pos (write_ne_nil fv off) _

theorem parseFrom_writeFrom (fvs : List FV) :
    ∀ (fts : List FT) (off : Nat) (t : Bytes), fieldsOK fts fvs = true →
      parseFrom off fts (writeFrom off fvs ++ t) = some fvs := by
  induction fvs with
  | nil =>
    intro fts off t h
    cases fts with
    | nil => rfl
    | cons ft fts => simp [fieldsOK] at h
  | cons fv fvs ih =>
    intro fts off t h
    cases fts with
    | nil => simp [fieldsOK] at h
    | cons ft fts =>
      simp only [fieldsOK, Bool.and_eq_true] at h
      rw [parseFrom, writeFrom_cons_isEmpty]
      simp only [Bool.false_eq_true, if_false, writeFrom, List.append_assoc]
      rw [read_write ft fv off _ h.1]
      simp only
      -- the offset the reader computes from the lengths is the offset the builder was at
      have hoff : off + ((fv.write off ++ (writeFrom (off + (fv.write off).length) fvs ++ t)).length -
          (writeFrom (off + (fv.write off).length) fvs ++ t).length) = off + (fv.write off).length := by
        simp only [List.length_append]; omega
      rw [hoff, ih fts _ t h.2]

theorem parseMsg_writeFields (fts : List FT) (fvs : List FV) (t : Bytes)
    (h : fieldsOK fts fvs = true) (hne : fvs ≠ []) :
    parseMsg fts (writeFields fvs ++ t) = some fvs := by
  cases fvs with
  | nil => exact absurd rfl hne
  | cons fv fvs =>
    cases fts with
    | nil => simp [fieldsOK] at h
    | cons ft fts =>
      unfold parseMsg writeFields
      rw [writeFrom_cons_isEmpty]
      exact parseFrom_writeFrom _ _ 0 t h

/-- no trailing bytes is the case `t = []` -/
theorem at_nil {β : Type} {f : Bytes → β} {b : Bytes} {r : β} (h : ∀ t, f (b ++ t) = r) : f b = r :=
  List.append_nil b ▸ h []

theorem writeFields_isEmpty (fv : FV) (fvs : List FV) : (writeFields (fv :: fvs)).isEmpty = false := by
  simpa [writeFields] using writeFrom_cons_isEmpty 0 fv fvs []

theorem parseMsg_writeFields' (fts : List FT) (fvs : List FV)
    (h : fieldsOK fts fvs = true) (hne : fvs ≠ []) :
    parseMsg fts (writeFields fvs) = some fvs :=
  at_nil fun t => parseMsg_writeFields fts fvs t h hne
/-! ## what follows from a round trip that tolerates trailing bytes

Each structure `X` below gets `X.decode_encode_append` by the same three steps (the generic reader
returns the builder's field list, `parseMsg_writeFields`; the `match` of `X.decode` fires on it; the nested
parts decode by their own round trips); the rest of its family is an instance of the lemmas here.

`X.decode` and `X.encode` are opened by `rw` with their equations, not by `unfold`: after `unfold` the kernel
has to see for itself that `X.decode (X.encode x ++ t)` is the `match` on `parseMsg ..`, and does so by running
the reader on the symbolic message as far as it gets (five to thirty times the cost of the whole proof). -/

theorem inj_of_decode_append {α : Type} {enc : α → Bytes} {dec : Bytes → Option α} {P : α → Prop}
    (hd : ∀ x, P x → ∀ t, dec (enc x ++ t) = some x)
    {x y : α} (hx : P x) (hy : P y) (e : enc x = enc y) : x = y :=
  Option.some.inj ((hd x hx []).symm.trans (e ▸ hd y hy []))

/-- a list of parts decodes part by part -/
theorem mapOpt_map {α : Type} {enc : α → Bytes} {dec : Bytes → Option α} {P : α → Prop}
    (hd : ∀ x, P x → dec (enc x) = some x) (xs : List α) (h : ∀ x ∈ xs, P x) :
    mapOpt dec (xs.map enc) = some xs := by
  induction xs with
  | nil => rfl
  | cons x xs ih =>
    simp only [List.map_cons, mapOpt, hd x (h x (List.mem_cons_self ..)),
      ih (fun y hy => h y (List.mem_cons_of_mem _ hy))]

/-! ## BlockRef -/

theorem BlockRef.decode_encode_append (x : BlockRef) (h : x.WF) (t : Bytes) :
    BlockRef.decode (BlockRef.encode x ++ t) = some x := by
  rw [BlockRef.decode, BlockRef.encode, parseMsg_writeFields _ _ t h (List.cons_ne_nil _ _)]
  rfl

theorem BlockRef.decode_encode (x : BlockRef) (h : x.WF) : BlockRef.decode (BlockRef.encode x) = some x :=
  at_nil (BlockRef.decode_encode_append x h)

/-! ## SenderSig -/

theorem SenderSig.decode_encode_append (x : SenderSig) (h : x.WF) (t : Bytes) :
    SenderSig.decode (SenderSig.encode x ++ t) = some x := by
  rw [SenderSig.decode, SenderSig.encode, parseMsg_writeFields _ _ t h (List.cons_ne_nil _ _)]
  rfl

theorem SenderSig.decode_encode (x : SenderSig) (h : x.WF) : SenderSig.decode (SenderSig.encode x) = some x :=
  at_nil (SenderSig.decode_encode_append x h)

/-! ## Proof (PreparedProof) -/

theorem Proof.decode_encode_append (x : Proof) (h : x.WF) (t : Bytes) :
    Proof.decode (Proof.encode x ++ t) = some x := by
  obtain ⟨h1, h2, h3, h4, h5⟩ := h
  rw [Proof.decode, Proof.encode, parseMsg_writeFields _ _ t h5 (List.cons_ne_nil _ _)]
  simp only [Proof.fields, BlockRef.decode_encode _ h1, SenderSig.decode_encode _ h2,
    BlockRef.decode_encode _ h3, mapOpt_map SenderSig.decode_encode _ h4]

theorem Proof.decode_encode (x : Proof) (h : x.WF) : Proof.decode (Proof.encode x) = some x :=
  at_nil (Proof.decode_encode_append x h)

/-! ## VCHeader (ViewChangeHeader) -/

theorem VCHeader.decode_encode_append (x : VCHeader) (h : x.WF) (t : Bytes) :
    VCHeader.decode (VCHeader.encode x ++ t) = some x := by
  obtain ⟨h1, h2⟩ := h
  rw [VCHeader.decode, VCHeader.encode, parseMsg_writeFields _ _ t h2 (List.cons_ne_nil _ _)]
  obtain ⟨m, i, hh, v, p⟩ := x
  cases p with
  | none => rfl
  | some p =>
    -- an encoded proof is never the empty string that stands for "no proof"
    have hne : (Proof.encode p).isEmpty = false := writeFields_isEmpty _ _
    simp only [VCHeader.fields, VCHeader.proofBytes, hne, Proof.decode_encode p h1, Bool.false_eq_true, if_false]

theorem VCHeader.decode_encode (x : VCHeader) (h : x.WF) : VCHeader.decode (VCHeader.encode x) = some x :=
  at_nil (VCHeader.decode_encode_append x h)

/-! ## VCContent (ViewChangeMessageContent) -/

theorem VCContent.decode_encode_append (x : VCContent) (h : x.WF) (t : Bytes) :
    VCContent.decode (VCContent.encode x ++ t) = some x := by
  obtain ⟨h1, h2, h3⟩ := h
  rw [VCContent.decode, VCContent.encode, parseMsg_writeFields _ _ t h3 (List.cons_ne_nil _ _)]
  simp only [VCContent.fields, VCHeader.decode_encode _ h1, SenderSig.decode_encode _ h2]

theorem VCContent.decode_encode (x : VCContent) (h : x.WF) : VCContent.decode (VCContent.encode x) = some x :=
  at_nil (VCContent.decode_encode_append x h)

/-! ## NVHeader (NewViewHeader) -/

theorem NVHeader.decode_encode_append (x : NVHeader) (h : x.WF) (t : Bytes) :
    NVHeader.decode (NVHeader.encode x ++ t) = some x := by
  obtain ⟨h1, h2⟩ := h
  rw [NVHeader.decode, NVHeader.encode, parseMsg_writeFields _ _ t h2 (List.cons_ne_nil _ _)]
  simp only [NVHeader.fields, mapOpt_map VCContent.decode_encode _ h1]

theorem NVHeader.decode_encode (x : NVHeader) (h : x.WF) : NVHeader.decode (NVHeader.encode x) = some x :=
  at_nil (NVHeader.decode_encode_append x h)

/-! ## PPContent (PreprepareContent and PrepareContent) -/

theorem PPContent.decode_encode_append (x : PPContent) (h : x.WF) (t : Bytes) :
    PPContent.decode (PPContent.encode x ++ t) = some x := by
  obtain ⟨h1, h2, h3⟩ := h
  rw [PPContent.decode, PPContent.encode, parseMsg_writeFields _ _ t h3 (List.cons_ne_nil _ _)]
  simp only [PPContent.fields, BlockRef.decode_encode _ h1, SenderSig.decode_encode _ h2]

theorem PPContent.decode_encode (x : PPContent) (h : x.WF) : PPContent.decode (PPContent.encode x) = some x :=
  at_nil (PPContent.decode_encode_append x h)

/-! ## CContent (CommitContent) -/

theorem CContent.decode_encode_append (x : CContent) (h : x.WF) (t : Bytes) :
    CContent.decode (CContent.encode x ++ t) = some x := by
  obtain ⟨h1, h2, h3⟩ := h
  rw [CContent.decode, CContent.encode, parseMsg_writeFields _ _ t h3 (List.cons_ne_nil _ _)]
  simp only [CContent.fields, BlockRef.decode_encode _ h1, SenderSig.decode_encode _ h2]

theorem CContent.decode_encode (x : CContent) (h : x.WF) : CContent.decode (CContent.encode x) = some x :=
  at_nil (CContent.decode_encode_append x h)

/-! ## NVContent (NewViewMessageContent) -/

theorem NVContent.decode_encode_append (x : NVContent) (h : x.WF) (t : Bytes) :
    NVContent.decode (NVContent.encode x ++ t) = some x := by
  obtain ⟨h1, h2, h3, h4⟩ := h
  rw [NVContent.decode, NVContent.encode, parseMsg_writeFields _ _ t h4 (List.cons_ne_nil _ _)]
  simp only [NVContent.fields, NVHeader.decode_encode _ h1, SenderSig.decode_encode _ h2,
    PPContent.decode_encode _ h3]

theorem NVContent.decode_encode (x : NVContent) (h : x.WF) : NVContent.decode (NVContent.encode x) = some x :=
  at_nil (NVContent.decode_encode_append x h)

/-! ## signed bytes: the reader hands the verifier exactly the bytes the signer's builder produced

Signing: `signedHeader.Build().Raw()` (= `X.encode header`); verifying: `content.SignedHeader().Raw()`
(= `signedRaw` of the received content). -/

theorem PPContent.signedRaw_encode (c : PPContent) (h : c.WF) (t : Bytes) :
    PPContent.signedRaw (PPContent.encode c ++ t) = some (BlockRef.encode c.header) := by
  rw [PPContent.signedRaw, PPContent.encode, parseMsg_writeFields _ _ t h.2.2 (List.cons_ne_nil _ _)]
  rfl

theorem CContent.signedRaw_encode (c : CContent) (h : c.WF) (t : Bytes) :
    CContent.signedRaw (CContent.encode c ++ t) = some (BlockRef.encode c.header) := by
  rw [CContent.signedRaw, CContent.encode, parseMsg_writeFields _ _ t h.2.2 (List.cons_ne_nil _ _)]
  rfl

theorem VCContent.signedRaw_encode (c : VCContent) (h : c.WF) (t : Bytes) :
    VCContent.signedRaw (VCContent.encode c ++ t) = some (VCHeader.encode c.header) := by
  rw [VCContent.signedRaw, VCContent.encode, parseMsg_writeFields _ _ t h.2.2 (List.cons_ne_nil _ _)]
  rfl

theorem NVContent.signedRaw_encode (c : NVContent) (h : c.WF) (t : Bytes) :
    NVContent.signedRaw (NVContent.encode c ++ t) = some (NVHeader.encode c.header) := by
  rw [NVContent.signedRaw, NVContent.encode, parseMsg_writeFields _ _ t h.2.2.2 (List.cons_ne_nil _ _)]
  rfl

/-! ## Content (LeanhelixContent, the top-level union) -/

theorem Content.decode_encode_append (x : Content) (h : x.WF) (t : Bytes) :
    Content.decode (Content.encode x ++ t) = some x := by
  cases x
  all_goals
    obtain ⟨h1, h2⟩ := h
    rw [Content.decode, Content.encode, parseMsg_writeFields _ _ t h2 (List.cons_ne_nil _ _)]
  · exact congrArg (Option.map Content.preprepare) (PPContent.decode_encode _ h1)
  · exact congrArg (Option.map Content.prepare) (PPContent.decode_encode _ h1)
  · exact congrArg (Option.map Content.commit) (CContent.decode_encode _ h1)
  · exact congrArg (Option.map Content.viewChange) (VCContent.decode_encode _ h1)
  · exact congrArg (Option.map Content.newView) (NVContent.decode_encode _ h1)

theorem Content.decode_encode (x : Content) (h : x.WF) : Content.decode (Content.encode x) = some x :=
  at_nil (Content.decode_encode_append x h)

/-- **Every signature survives**: whatever the content type, the bytes the reader hands to the verifier are
the bytes that were signed. -/
theorem Content.signedRaw_encode (c : Content) (h : c.WF) (t : Bytes) :
    Content.signedRaw (Content.encode c ++ t) = some c.headerBytes := by
  cases c
  all_goals
    obtain ⟨h1, h2⟩ := h
    rw [Content.signedRaw, Content.encode, parseMsg_writeFields _ _ t h2 (List.cons_ne_nil _ _)]
  · exact at_nil (f := PPContent.signedRaw) (PPContent.signedRaw_encode _ h1)
  · exact at_nil (f := PPContent.signedRaw) (PPContent.signedRaw_encode _ h1)
  · exact at_nil (f := CContent.signedRaw) (CContent.signedRaw_encode _ h1)
  · exact at_nil (f := VCContent.signedRaw) (VCContent.signedRaw_encode _ h1)
  · exact at_nil (f := NVContent.signedRaw) (NVContent.signedRaw_encode _ h1)

/-- the receiver's side: the signed bytes are the re-encoding of the header it decoded (likewise
`Proof.reencode_refs`, `BlockProof.reencode_ref`) -/
theorem Content.signed_bytes_roundtrip (c : Content) (h : c.WF) :
    ∃ c', Content.decode (Content.encode c) = some c' ∧
      Content.signedRaw (Content.encode c) = some c'.headerBytes :=
  ⟨c, Content.decode_encode c h, at_nil (Content.signedRaw_encode c h)⟩

/-! ## BlockProof -/

theorem BlockProof.decode_encode_append (x : BlockProof) (h : x.WF) (t : Bytes) :
    BlockProof.decode (BlockProof.encode x ++ t) = some x := by
  obtain ⟨h1, h2, h3⟩ := h
  rw [BlockProof.decode, BlockProof.encode, parseMsg_writeFields _ _ t h3 (List.cons_ne_nil _ _)]
  simp only [BlockProof.fields, BlockRef.decode_encode _ h1, mapOpt_map SenderSig.decode_encode _ h2]

theorem BlockProof.decode_encode (x : BlockProof) (h : x.WF) : BlockProof.decode (BlockProof.encode x) = some x :=
  at_nil (BlockProof.decode_encode_append x h)

/-! ### inside proofs: the raw slices are the builder outputs of the parts -/

theorem Proof.raw_encode (p : Proof) (h : p.WF) (t : Bytes) :
    Proof.raw (Proof.encode p ++ t) =
      some (BlockRef.encode p.ppRef, SenderSig.encode p.ppSender, BlockRef.encode p.pRef,
        p.pSenders.map SenderSig.encode) := by
  rw [Proof.raw, Proof.encode, parseMsg_writeFields _ _ t h.2.2.2.2 (List.cons_ne_nil _ _)]
  rfl

theorem Proof.reencode_refs (p : Proof) (h : p.WF) :
    ∃ q, Proof.decode (Proof.encode p) = some q ∧
      Proof.raw (Proof.encode p) =
        some (BlockRef.encode q.ppRef, SenderSig.encode q.ppSender, BlockRef.encode q.pRef,
          q.pSenders.map SenderSig.encode) :=
  ⟨p, Proof.decode_encode p h, at_nil (Proof.raw_encode p h)⟩

theorem VCHeader.proofRaw_encode (x : VCHeader) (h : x.WF) (t : Bytes) :
    VCHeader.proofRaw (VCHeader.encode x ++ t) = some (VCHeader.proofBytes x.proof) := by
  rw [VCHeader.proofRaw, VCHeader.encode, parseMsg_writeFields _ _ t h.2 (List.cons_ne_nil _ _)]
  rfl

/-- the votes inside a NEW_VIEW header come out as the very bytes each voter's content builder made
(so `VCContent.signedRaw_encode` applies to each of them) -/
theorem NVHeader.votesRaw_encode (x : NVHeader) (h : x.WF) (t : Bytes) :
    NVHeader.votesRaw (NVHeader.encode x ++ t) = some (x.votes.map VCContent.encode) := by
  rw [NVHeader.votesRaw, NVHeader.encode, parseMsg_writeFields _ _ t h.2 (List.cons_ne_nil _ _)]
  rfl

theorem BlockProof.refRaw_encode (x : BlockProof) (h : x.WF) (t : Bytes) :
    BlockProof.refRaw (BlockProof.encode x ++ t) = some (BlockRef.encode x.ref) := by
  rw [BlockProof.refRaw, BlockProof.encode, parseMsg_writeFields _ _ t h.2.2 (List.cons_ne_nil _ _)]
  rfl

theorem BlockProof.reencode_ref (x : BlockProof) (h : x.WF) :
    ∃ y, BlockProof.decode (BlockProof.encode x) = some y ∧
      BlockProof.refRaw (BlockProof.encode x) = some (BlockRef.encode y.ref) :=
  ⟨x, BlockProof.decode_encode x h, at_nil (BlockProof.refRaw_encode x h)⟩

/-! ## encode is injective on well-formed values -/

theorem BlockRef.encode_injective {x y : BlockRef} (hx : x.WF) (hy : y.WF)
    (e : BlockRef.encode x = BlockRef.encode y) : x = y :=
  inj_of_decode_append BlockRef.decode_encode_append hx hy e

theorem SenderSig.encode_injective {x y : SenderSig} (hx : x.WF) (hy : y.WF)
    (e : SenderSig.encode x = SenderSig.encode y) : x = y :=
  inj_of_decode_append SenderSig.decode_encode_append hx hy e

theorem Proof.encode_injective {x y : Proof} (hx : x.WF) (hy : y.WF)
    (e : Proof.encode x = Proof.encode y) : x = y :=
  inj_of_decode_append Proof.decode_encode_append hx hy e

theorem VCHeader.encode_injective {x y : VCHeader} (hx : x.WF) (hy : y.WF)
    (e : VCHeader.encode x = VCHeader.encode y) : x = y :=
  inj_of_decode_append VCHeader.decode_encode_append hx hy e

theorem VCContent.encode_injective {x y : VCContent} (hx : x.WF) (hy : y.WF)
    (e : VCContent.encode x = VCContent.encode y) : x = y :=
  inj_of_decode_append VCContent.decode_encode_append hx hy e

theorem NVHeader.encode_injective {x y : NVHeader} (hx : x.WF) (hy : y.WF)
    (e : NVHeader.encode x = NVHeader.encode y) : x = y :=
  inj_of_decode_append NVHeader.decode_encode_append hx hy e

theorem PPContent.encode_injective {x y : PPContent} (hx : x.WF) (hy : y.WF)
    (e : PPContent.encode x = PPContent.encode y) : x = y :=
  inj_of_decode_append PPContent.decode_encode_append hx hy e

theorem CContent.encode_injective {x y : CContent} (hx : x.WF) (hy : y.WF)
    (e : CContent.encode x = CContent.encode y) : x = y :=
  inj_of_decode_append CContent.decode_encode_append hx hy e

theorem NVContent.encode_injective {x y : NVContent} (hx : x.WF) (hy : y.WF)
    (e : NVContent.encode x = NVContent.encode y) : x = y :=
  inj_of_decode_append NVContent.decode_encode_append hx hy e

theorem Content.encode_injective {x y : Content} (hx : x.WF) (hy : y.WF)
    (e : Content.encode x = Content.encode y) : x = y :=
  inj_of_decode_append Content.decode_encode_append hx hy e

theorem BlockProof.encode_injective {x y : BlockProof} (hx : x.WF) (hy : y.WF)
    (e : BlockProof.encode x = BlockProof.encode y) : x = y :=
  inj_of_decode_append BlockProof.decode_encode_append hx hy e

/-! ## `writeArr` is what `WriteMessageArray` does: `WriteMessage` for each element in turn
(each aligning itself to 4 first), started at an offset that is a multiple of 4 -/

theorem padLen_aligns (off : Nat) : (off + padLen 4 off) % 4 = 0 := by
  unfold padLen; omega

theorem padLen_congr {a x y : Nat} (h : x % a = y % a) : padLen a x = padLen a y := by
  unfold padLen; rw [h]

theorem writeFrom_msgs (c : Bytes) (cs : List Bytes) :
    ∀ off, writeFrom off ((c :: cs).map FV.msg) = zeros (padLen 4 off) ++ writeArr (c :: cs) := by
  induction cs generalizing c with
  | nil => intro off; simp only [List.map, writeFrom, FV.write, writeArr, List.append_nil, List.append_assoc]
  | cons c' cs ih =>
    intro off
    have hlen : ((FV.msg c).write off).length = padLen 4 off + (4 + c.length) := by
      simp only [FV.write, List.length_append, zeros_length, le32_length, Nat.add_assoc]
    -- after the element the builder is at a multiple of 4 plus the element's length
    have hpad : padLen 4 (off + (padLen 4 off + (4 + c.length))) = padLen 4 c.length :=
      padLen_congr (by
        rw [← Nat.add_assoc, Nat.add_mod, padLen_aligns, Nat.zero_add, Nat.mod_mod, Nat.add_mod_left])
    have e : writeFrom off ((c :: c' :: cs).map FV.msg) =
        (FV.msg c).write off ++ writeFrom (off + ((FV.msg c).write off).length) ((c' :: cs).map FV.msg) := rfl
    rw [e, hlen, ih c', hpad]
    simp only [FV.write, writeArr, List.append_assoc]

theorem writeArr_eq_writeFrom (cs : List Bytes) (off : Nat) (h : off % 4 = 0) :
    writeFrom off (cs.map FV.msg) = writeArr cs := by
  cases cs with
  | nil => rfl
  | cons c cs =>
    have : padLen 4 off = 0 := by rw [padLen_congr (y := 0) h]; rfl
    rw [writeFrom_msgs, this]; rfl

/-! ## sanity checks on concrete values

`decide +kernel`: the test vectors are evaluated by the kernel only, not by the elaborator first. -/

example : le16 0x1234 = [0x34, 0x12] := by decide +kernel
example : le32 5 = [5, 0, 0, 0] := by decide +kernel
example : padLen 4 5 = 3 ∧ padLen 4 8 = 0 ∧ padLen 2 3 = 1 := by decide +kernel
example : BlockRef.encode ⟨1, 2, 3, 4, [0xab, 0xcd, 0xef]⟩ =
    [2,0,0,0,0,0,0,0, 1,0, 0,0, 3,0,0,0,0,0,0,0, 4,0,0,0,0,0,0,0, 3,0,0,0, 0xab,0xcd,0xef] := by decide +kernel
example : SenderSig.encode ⟨[1], [2, 3]⟩ = [1,0,0,0, 1, 0,0,0, 2,0,0,0, 2,3] := by decide +kernel
example : writeArr [[1], [2, 3]] = [1,0,0,0, 1, 0,0,0, 2,0,0,0, 2,3] := by decide +kernel
example : parseArr [1,0,0,0, 1, 0,0,0, 2,0,0,0, 2,3] = [[1], [2, 3]] := by decide +kernel
example : parseArr [1,0,0,0, 1, 0,0,0, 9,0,0,0, 2,3] = [[1], []] := by decide +kernel  -- overrun: one empty element, stop
example : BlockRef.decode [2,0,0,0,0,0,0,0, 1,0] = some ⟨1, 2, 0, 0, []⟩ := by decide +kernel -- missing fields read as defaults
example : BlockRef.decode [2,0,0,0,0,0,0,0, 1,0, 0] = none := by decide +kernel               -- padding runs into the end
example : BlockRef.decode [] = none := by decide +kernel
example : Content.decode (Content.encode (.prepare ⟨⟨2, 7, 8, 9, [1, 2, 3, 4, 5]⟩, ⟨[6], []⟩⟩) ++ [0xff]) =
    some (.prepare ⟨⟨2, 7, 8, 9, [1, 2, 3, 4, 5]⟩, ⟨[6], []⟩⟩) := by decide +kernel
example : (Content.prepare ⟨⟨2, 7, 8, 9, [1, 2, 3, 4, 5]⟩, ⟨[6], []⟩⟩).WF := by decide +kernel

end LeanHelix.C20
