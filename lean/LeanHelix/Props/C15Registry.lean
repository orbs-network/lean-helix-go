import LeanHelix.Model.Contexts
import LeanHelix.Lemmas.List
/-!
# C15 (registry part) — laws of the context registry, for every order of For / CancelOlderThan / Shutdown

`Reg.issued` is a ghost log of every (position, context id) ever created.  `done r id` is
`ctx.Err() != nil` of that context.

Each operation is characterised once (`for_cases` / `for_frame`, `cancel_eq` / `stale_cancel_iff`;
`Shutdown` is `{ r with shutdown := true }` by `rfl`), a property kept by every `step` is kept by `run`
(`run_induct`), and everything else is read off these.
-/
namespace LeanHelix.C15
open LeanHelix.State (HV)
open LeanHelix.Contexts

theorem olderThan_iff (a b : HV) :
    a.olderThan b = true ↔ (a.height < b.height ∨ (a.height = b.height ∧ a.view < b.view)) := by
  unfold HV.olderThan; simp

def stale (r : Reg) (hv : HV) : Prop := ∃ w, r.watermark = some w ∧ hv.olderThan w = true

structure Inv (r : Reg) : Prop where
  live_issued : ∀ p ∈ r.live, p ∈ r.issued
  issued_lt : ∀ p ∈ r.issued, p.2 < r.next
  issued_ids : ∀ p ∈ r.issued, ∀ q ∈ r.issued, p.2 = q.2 → p = q
  live_not_cancelled : ∀ p ∈ r.live, p.2 ∉ r.cancelled
  live_not_stale : ∀ p ∈ r.live, ¬ stale r p.1
  keys_nodup : (r.live.map (·.1)).Nodup
  issued_cases : ∀ p ∈ r.issued, p ∈ r.live ∨ p.2 ∈ r.cancelled
  cancelled_stale : ∀ p ∈ r.issued, p.2 ∈ r.cancelled → stale r p.1
  cancelled_lt : ∀ i ∈ r.cancelled, i < r.next

theorem inv_init : Inv {} :=
  ⟨by simp, by simp, by simp, by simp, by simp, by simp, by simp, by simp, by simp⟩

theorem isStale_iff (r : Reg) (hv : HV) : isStale r hv = true ↔ stale r hv := by
  unfold isStale stale
  cases r.watermark <;> simp

theorem done_iff (r : Reg) (id : Nat) : done r id = true ↔ r.shutdown = true ∨ id ∈ r.cancelled := by
  simp [done]

theorem not_done_iff (r : Reg) (id : Nat) : done r id = false ↔ r.shutdown = false ∧ id ∉ r.cancelled := by
  simp [done]

/-! ## lists -/

theorem lookup_some {l : List (HV × Nat)} {hv : HV} {id : Nat} (h : lookup l hv = some id) :
    (hv, id) ∈ l := by
  obtain ⟨p, hf, rfl⟩ := Option.map_eq_some_iff.mp h
  have hk : p.1 = hv := by simpa using List.find?_some hf
  rw [← hk]; exact List.mem_of_find?_eq_some hf

theorem lookup_none {l : List (HV × Nat)} {hv : HV} (h : lookup l hv = none) : hv ∉ l.map (·.1) := by
  intro hm
  obtain ⟨p, hp, rfl⟩ := List.mem_map.mp hm
  simpa using List.find?_eq_none.mp (Option.map_eq_none_iff.mp h) p hp

/-! ## `For` -/

theorem for_cases (r : Reg) (hv : HV) :
    (r.shutdown = true ∧ step r (.for_ hv) = (r, .errShutdown)) ∨
    (r.shutdown = false ∧ stale r hv ∧ step r (.for_ hv) = (r, .errStale)) ∨
    (r.shutdown = false ∧ ¬ stale r hv ∧ ∃ id, (hv, id) ∈ r.live ∧ step r (.for_ hv) = (r, .ctx id)) ∨
    (r.shutdown = false ∧ ¬ stale r hv ∧ hv ∉ r.live.map (·.1) ∧
      step r (.for_ hv) = ({ r with live := (hv, r.next) :: r.live, next := r.next + 1,
                                    issued := (hv, r.next) :: r.issued }, .ctx r.next)) := by
  simp only [step]
  cases hs : r.shutdown
  · cases hst : isStale r hv
    · have hns : ¬ stale r hv := fun c => by rw [(isStale_iff r hv).mpr c] at hst; cases hst
      cases hl : lookup r.live hv
      · exact .inr (.inr (.inr ⟨rfl, hns, lookup_none hl, rfl⟩))
      · exact .inr (.inr (.inl ⟨rfl, hns, _, lookup_some hl, rfl⟩))
    · exact .inr (.inl ⟨rfl, (isStale_iff r hv).mp hst, rfl⟩)
  · exact .inl ⟨rfl, rfl⟩

theorem for_frame (r : Reg) (hv : HV) :
    (step r (.for_ hv)).1.watermark = r.watermark ∧ (step r (.for_ hv)).1.shutdown = r.shutdown ∧
    (step r (.for_ hv)).1.cancelled = r.cancelled := by
  rcases for_cases r hv with ⟨_, e⟩ | ⟨_, _, e⟩ | ⟨_, _, _, _, e⟩ | ⟨_, _, _, e⟩ <;> rw [e] <;> exact ⟨rfl, rfl, rfl⟩

/-! ## `CancelOlderThan` -/

def newWm (r : Reg) (hv : HV) : HV :=
  match r.watermark with
  | none => hv
  | some w => if w.olderThan hv then hv else w

theorem cancel_eq (r : Reg) (hv : HV) :
    (step r (.cancelOlderThan hv)).1 =
      { r with live := r.live.filter (fun p => !p.1.olderThan hv),
               cancelled := (r.live.filter (fun p => p.1.olderThan hv)).map (·.2) ++ r.cancelled,
               watermark := some (newWm r hv) } := by
  unfold step newWm; cases r.watermark <;> simp <;> split <;> rfl

theorem newWm_cases (r : Reg) (hv : HV) : newWm r hv = hv ∨ r.watermark = some (newWm r hv) := by
  unfold newWm
  cases r.watermark with
  | none => exact .inl rfl
  | some w => dsimp only; split; exact .inl rfl; exact .inr rfl

theorem olderThan_trans {a b c : HV} (h1 : a.olderThan b = true) (h2 : b.olderThan c = true) :
    a.olderThan c = true := by
  rw [olderThan_iff] at *; omega

theorem olderThan_of_not {a b c : HV} (h1 : a.olderThan b = true) (h2 : ¬ c.olderThan b = true) :
    a.olderThan c = true := by
  rw [olderThan_iff] at *; omega

/-- the new watermark is the later of the old one and `hv` -/
theorem stale_cancel_iff (r : Reg) (hv x : HV) :
    stale (step r (.cancelOlderThan hv)).1 x ↔ stale r x ∨ x.olderThan hv = true := by
  rw [cancel_eq]
  unfold stale newWm
  cases r.watermark with
  | none => simp
  | some w =>
    simp only [Option.some.injEq, exists_eq_left']
    split
    next c => exact ⟨.inr, fun h => h.elim (olderThan_trans · c) id⟩
    next c => exact ⟨.inl, fun h => h.elim id (olderThan_of_not · c)⟩

/-! ## the invariant -/

theorem Inv.id_pos {r : Reg} (h : Inv r) {p q : HV × Nat} (hp : p ∈ r.issued) (hq : q ∈ r.live)
    (e : q.2 = p.2) : q = p :=
  h.issued_ids q (h.live_issued q hq) p hp e

theorem Inv.next_fresh {r : Reg} (h : Inv r) : (∀ p ∈ r.issued, p.2 ≠ r.next) ∧ r.next ∉ r.cancelled :=
  ⟨fun p hp => Nat.ne_of_lt (h.issued_lt p hp), fun hc => Nat.lt_irrefl _ (h.cancelled_lt _ hc)⟩

theorem inv_step (r : Reg) (op : Op) (h : Inv r) : Inv (step r op).1 := by
  cases op with
  | shutdown => exact ⟨h.1, h.2, h.3, h.4, h.5, h.6, h.7, h.8, h.9⟩
  | for_ hv =>
    rcases for_cases r hv with ⟨_, e⟩ | ⟨_, _, e⟩ | ⟨_, _, _, _, e⟩ | ⟨_, hns, hl, e⟩ <;> rw [e]
    · exact h
    · exact h
    · exact h
    · have ⟨hfresh, hnc⟩ := h.next_fresh
      exact {
        live_issued := List.forall_mem_cons.mpr
          ⟨List.mem_cons_self, fun p hp => List.mem_cons_of_mem _ (h.live_issued p hp)⟩
        issued_lt := List.forall_mem_cons.mpr
          ⟨Nat.lt_succ_self _, fun p hp => Nat.lt_succ_of_lt (h.issued_lt p hp)⟩
        issued_ids := List.forall_mem_cons.mpr
          ⟨List.forall_mem_cons.mpr ⟨fun _ => rfl, fun q hq e => absurd e.symm (hfresh q hq)⟩,
           fun p hp => List.forall_mem_cons.mpr ⟨fun e => absurd e (hfresh p hp), h.issued_ids p hp⟩⟩
        live_not_cancelled := List.forall_mem_cons.mpr ⟨hnc, h.live_not_cancelled⟩
        live_not_stale := List.forall_mem_cons.mpr ⟨hns, h.live_not_stale⟩
        keys_nodup := List.nodup_cons.mpr ⟨hl, h.keys_nodup⟩
        issued_cases := List.forall_mem_cons.mpr
          ⟨.inl List.mem_cons_self, fun p hp => (h.issued_cases p hp).imp_left (List.mem_cons_of_mem _)⟩
        cancelled_stale := List.forall_mem_cons.mpr ⟨fun hc => absurd hc hnc, h.cancelled_stale⟩
        cancelled_lt := fun i hi => Nat.lt_succ_of_lt (h.cancelled_lt i hi) }
  | cancelOlderThan hv =>
    have hst := stale_cancel_iff r hv
    rw [cancel_eq] at hst ⊢
    have hnew : ∀ i ∈ (r.live.filter (fun p => p.1.olderThan hv)).map (·.2) ++ r.cancelled,
        (∃ q ∈ r.live, q.1.olderThan hv = true ∧ q.2 = i) ∨ i ∈ r.cancelled := by
      intro i hi
      simpa only [List.mem_append, List.mem_map, List.mem_filter, and_assoc] using hi
    exact {
      live_issued := fun p hp => h.live_issued p (List.mem_filter.mp hp).1
      issued_lt := h.issued_lt
      issued_ids := h.issued_ids
      live_not_cancelled := fun p hp hc => by
        have ⟨hpl, hk⟩ := List.mem_filter.mp hp
        rcases hnew _ hc with ⟨q, hq, ho, e⟩ | hc
        · rw [h.id_pos (h.live_issued p hpl) hq e] at ho
          rw [ho] at hk; cases hk
        · exact h.live_not_cancelled p hpl hc
      live_not_stale := fun p hp hs => by
        have ⟨hpl, hk⟩ := List.mem_filter.mp hp
        rcases (hst p.1).mp hs with c | c
        · exact h.live_not_stale p hpl c
        · rw [c] at hk; cases hk
      keys_nodup := h.keys_nodup.sublist (List.filter_sublist.map _)
      issued_cases := fun p hp => by
        rcases h.issued_cases p hp with c | c
        · cases ho : p.1.olderThan hv
          · exact .inl (List.mem_filter.mpr ⟨c, by rw [ho]; rfl⟩)
          · exact .inr (List.mem_append_left _ (List.mem_map.mpr ⟨p, List.mem_filter.mpr ⟨c, ho⟩, rfl⟩))
        · exact .inr (List.mem_append_right _ c)
      cancelled_stale := fun p hp hc => (hst p.1).mpr <| by
        rcases hnew _ hc with ⟨q, hq, ho, e⟩ | hc
        · rw [← h.id_pos hp hq e]; exact .inr ho
        · exact .inl (h.cancelled_stale p hp hc)
      cancelled_lt := fun i hi => by
        rcases hnew _ hi with ⟨q, hq, _, rfl⟩ | hi
        · exact h.issued_lt q (h.live_issued q hq)
        · exact h.cancelled_lt i hi }

/-! ## runs -/

theorem run_append (r : Reg) (xs ys : List Op) : run r (xs ++ ys) = run (run r xs) ys := by
  unfold run; rw [List.foldl_append]

theorem run_induct {P : Reg → Prop} (hstep : ∀ r op, P r → P (step r op).1) (r : Reg) (ops : List Op)
    (h : P r) : P (run r ops) :=
  List.foldlRecOn ops _ h fun r h o _ => hstep r o h

theorem inv_run (ops : List Op) : Inv (run {} ops) := run_induct inv_step _ ops inv_init

theorem stale_step (r : Reg) (op : Op) (x : HV) (h : stale r x) : stale (step r op).1 x := by
  cases op with
  | cancelOlderThan hv => exact (stale_cancel_iff r hv x).mpr (.inl h)
  | shutdown => exact h
  | for_ hv => unfold stale; rw [(for_frame r hv).1]; exact h

theorem shutdown_step (r : Reg) (op : Op) (h : r.shutdown = true) : (step r op).1.shutdown = true := by
  cases op with
  | cancelOlderThan hv => rw [cancel_eq]; exact h
  | shutdown => rfl
  | for_ hv => rw [(for_frame r hv).2.1]; exact h

theorem watermark_step (r : Reg) (op : Op) (w : HV) (h : (step r op).1.watermark = some w) :
    r.watermark = some w ∨ op = .cancelOlderThan w := by
  cases op with
  | cancelOlderThan hv =>
    rw [cancel_eq] at h
    cases h
    rcases newWm_cases r hv with e | e
    · exact .inr (by rw [e])
    · exact .inl e
  | shutdown => exact .inl h
  | for_ hv => rw [(for_frame r hv).1] at h; exact .inl h

/-- **A context is never handed out for a (height, view) that has already been superseded**:
once `CancelOlderThan w` has been called, every later `For hv` with `hv` older than `w` is refused,
whatever was called before, in between and after. -/
theorem for_refuses_superseded (before between : List Op) (w hv : HV) (hold : hv.olderThan w = true) :
    let r := run {} (before ++ [.cancelOlderThan w] ++ between)
    (step r (.for_ hv)).2 = .errStale ∨ (step r (.for_ hv)).2 = .errShutdown := by
  intro r
  have hst : stale r hv := by
    show stale (run {} (before ++ [.cancelOlderThan w] ++ between)) hv
    rw [run_append, run_append]
    exact run_induct (stale_step · · hv) _ _ ((stale_cancel_iff _ w hv).mpr (.inr hold))
  rcases for_cases r hv with ⟨_, e⟩ | ⟨_, _, e⟩ | ⟨_, hns, _⟩ | ⟨_, hns, _⟩
  · exact .inr (by rw [e])
  · exact .inl (by rw [e])
  · exact absurd hst hns
  · exact absurd hst hns

/-- **A context that `For` hands out is live at that moment** (not cancelled, registry not shut down),
and is recorded for exactly the requested position. -/
theorem handed_out_is_live (r : Reg) (h : Inv r) (hv : HV) (id : Nat)
    (hres : (step r (.for_ hv)).2 = .ctx id) :
    done (step r (.for_ hv)).1 id = false ∧ (hv, id) ∈ (step r (.for_ hv)).1.live := by
  rcases for_cases r hv with ⟨_, e⟩ | ⟨_, _, e⟩ | ⟨hs, _, id', hm, e⟩ | ⟨hs, _, _, e⟩ <;> rw [e] at hres ⊢ <;> cases hres
  · exact ⟨(not_done_iff _ _).mpr ⟨hs, h.live_not_cancelled _ hm⟩, hm⟩
  · exact ⟨(not_done_iff _ _).mpr ⟨hs, h.next_fresh.2⟩, List.mem_cons_self⟩

/-- **`CancelOlderThan hv` cancels every context ever issued for an older position.** -/
theorem cancel_cancels_all_older (r : Reg) (h : Inv r) (hv : HV) (p : HV × Nat) (hp : p ∈ r.issued)
    (hold : p.1.olderThan hv = true) : done (step r (.cancelOlderThan hv)).1 p.2 = true := by
  rw [cancel_eq, done_iff]
  right
  rcases h.issued_cases p hp with c | c
  · exact List.mem_append_left _ (List.mem_map.mpr ⟨p, List.mem_filter.mpr ⟨c, hold⟩, rfl⟩)
  · exact List.mem_append_right _ c

/-- **Contexts of current or future positions are not cancelled by events about older ones**:
a context is done only if the registry was shut down or its own position is superseded. -/
theorem done_only_if_superseded_or_shutdown (r : Reg) (h : Inv r) (p : HV × Nat) (hp : p ∈ r.issued)
    (hd : done r p.2 = true) : r.shutdown = true ∨ stale r p.1 :=
  ((done_iff r p.2).mp hd).imp_right (h.cancelled_stale p hp)

theorem watermark_run (r : Reg) (ops : List Op) (w : HV) :
    (run r ops).watermark = some w → r.watermark = some w ∨ Op.cancelOlderThan w ∈ ops :=
  List.foldlRecOn (motive := fun b => b.watermark = some w → r.watermark = some w ∨ Op.cancelOlderThan w ∈ ops)
    ops _ .inl fun b ih o ho hb => (watermark_step b o w hb).elim ih fun e => .inr (e ▸ ho)

theorem watermark_from_cancel (ops : List Op) (w : HV) (hw : (run {} ops).watermark = some w) :
    Op.cancelOlderThan w ∈ ops :=
  (watermark_run {} ops w hw).resolve_left (by simp)

/-- **`For` is idempotent while the context is live**: asking again returns the same context. -/
theorem for_idempotent_while_live (r : Reg) (h : Inv r) (hv : HV) (id : Nat)
    (hlive : (hv, id) ∈ r.live) (hs : r.shutdown = false) : step r (.for_ hv) = (r, .ctx id) := by
  rcases for_cases r hv with ⟨c, _⟩ | ⟨_, c, _⟩ | ⟨_, _, id', hm, e⟩ | ⟨_, _, c, _⟩
  · rw [hs] at c; cases c
  · exact absurd c (h.live_not_stale _ hlive)
  · cases nodup_map_inj h.keys_nodup hm hlive rfl; exact e
  · exact absurd (List.mem_map.mpr ⟨_, hlive, rfl⟩) c

/-- **Shutdown is terminal**: the flag never resets, every later `For` is refused, every context is done. -/
theorem shutdown_is_terminal (r : Reg) (ops : List Op) (hs : r.shutdown = true) :
    (run r ops).shutdown = true ∧ (∀ hv, (step (run r ops) (.for_ hv)).2 = .errShutdown) ∧
    (∀ id, done (run r ops) id = true) := by
  have key : (run r ops).shutdown = true := run_induct shutdown_step r ops hs
  refine ⟨key, fun hv => ?_, fun id => (done_iff _ id).mpr (.inl key)⟩
  rcases for_cases (run r ops) hv with ⟨_, e⟩ | ⟨c, _⟩ | ⟨c, _⟩ | ⟨c, _⟩
  · rw [e]
  all_goals rw [key] at c; cases c

theorem done_monotone (r : Reg) (op : Op) (id : Nat) (hd : done r id = true) : done (step r op).1 id = true := by
  rw [done_iff] at hd ⊢
  cases op with
  | shutdown => exact .inl rfl
  | cancelOlderThan hv => rw [cancel_eq]; exact hd.imp_right (List.mem_append_right _)
  | for_ hv => rw [(for_frame r hv).2.1, (for_frame r hv).2.2]; exact hd

/-! ## non-vacuity: a concrete history exercising issue, supersede, refuse, survive -/
example :
    let r := run {} [.for_ ⟨1, 0⟩, .for_ ⟨1, 1⟩, .for_ ⟨1, 18446744073709551615⟩, .cancelOlderThan ⟨1, 1⟩]
    (step r (.for_ ⟨1, 0⟩)).2 = .errStale ∧ done r 0 = true ∧ done r 1 = false ∧ done r 2 = false
      ∧ (step r (.for_ ⟨1, 1⟩)).2 = .ctx 1 := by decide

/-! ## when `For` hands out a context -/

def Ready (r : Reg) (hv : HV) : Prop := r.shutdown = false ∧ ¬ stale r hv

theorem Ready.ctx {r : Reg} {hv : HV} (h : Ready r hv) : ∃ id, (Contexts.step r (.for_ hv)).2 = .ctx id := by
  rcases for_cases r hv with ⟨hs, _⟩ | ⟨_, hst, _⟩ | ⟨_, _, id, _, e⟩ | ⟨_, _, _, e⟩
  · rw [h.1] at hs; cases hs
  · exact absurd hst h.2
  · exact ⟨id, by rw [e]⟩
  · exact ⟨r.next, by rw [e]⟩

theorem Ready.for_ {r : Reg} {hv : HV} (h : Ready r hv) (x : HV) : Ready (Contexts.step r (.for_ x)).1 hv := by
  obtain ⟨e1, e2, _⟩ := for_frame r x
  unfold Ready stale
  rw [e1, e2]; exact h

theorem Ready.cancel {r : Reg} {hv : HV} (h : Ready r hv) {x : HV} (hx : hv.olderThan x = false) :
    Ready (Contexts.step r (.cancelOlderThan x)).1 hv :=
  ⟨by rw [cancel_eq]; exact h.1, fun hs => ((stale_cancel_iff r x hv).mp hs).elim h.2 (by rw [hx]; exact Bool.false_ne_true)⟩

end LeanHelix.C15
