import LeanHelix.Lemmas.Weights
/-!
# C06 — Quorum arithmetic: quorums intersect in more than f weight and are attainable

All theorems are about the Go-level model functions of `Model/Quorum.lean`
(`isQuorum`, `hasHonest`, `subsetWeight`, `calcQuorumWeight`, `calcByzMaxWeight`, all with
64-bit wrap-around), for every committee list `ms` and every id list (`A`, `B` may contain duplicates
and ids outside the committee).  Those that take `Fits ms` are stated for weight vectors whose total fits in
64 bits (`quorum_has_honest` and `zero_weight_adds_nothing` take it without needing it: their proofs hold under
wrap-around); the others hold under wrap-around as well.
-/
namespace LeanHelix.C06
open LeanHelix Quorum

/-- the hypothesis of the property: "all weight vectors whose total fits in 64 bits" (and W ≥ 1) -/
structure Fits (ms : List Member) : Prop where
  pos  : 1 ≤ W ms
  fits : W ms < U64

/-- f and Q computed by the code are the f = ⌊(W-1)/3⌋ and Q = W - f of the statement. -/
theorem thresholds (ms : List Member) (h : Fits ms) :
    calcByzMaxWeight (getWeights ms) = (W ms - 1) / 3 ∧
    calcQuorumWeight (getWeights ms) = W ms - (W ms - 1) / 3 :=
  ⟨calcByzMaxWeight_eq ms h.pos h.fits, calcQuorumWeight_eq ms h.pos h.fits⟩

/-- **Any two subsets that pass `IsQuorum` share committee members whose weight exceeds f.** -/
theorem quorum_intersection (ms : List Member) (h : Fits ms) (A B : List Nat)
    (hA : (isQuorum A ms).1 = true) (hB : (isQuorum B ms).1 = true) :
    calcByzMaxWeight (getWeights ms) < subsetWeight (A.filter (fun i => B.contains i)) ms := by
  rw [isQuorum_iff h.pos h.fits] at hA hB
  rw [calcByzMaxWeight_eq ms h.pos h.fits, subsetWeight_eq _ ms h.fits]
  simp only [List.contains_eq_mem, List.mem_filter, Bool.decide_and, Bool.decide_eq_true] at hA hB ⊢
  exact quorum_inter h.pos hA hB

theorem quorum_has_honest (ms : List Member) (h : Fits ms) (A : List Nat)
    (hA : (isQuorum A ms).1 = true) : (hasHonest A ms).1 = true := by
  simp only [isQuorum, hasHonest, decide_eq_true_eq, ge_iff_le, gt_iff_lt] at hA ⊢
  exact Nat.lt_of_lt_of_le (calcByzMaxWeight_lt_calcQuorumWeight _) hA

/-- **Quorums are attainable: the members outside any subset of weight ≤ f pass `IsQuorum`.** -/
theorem complement_of_f_is_quorum (ms : List Member) (h : Fits ms) (B : List Nat)
    (hB : subsetWeight B ms ≤ calcByzMaxWeight (getWeights ms)) :
    (isQuorum ((ms.map (·.id)).filter (fun i => !B.contains i)) ms).1 = true := by
  rw [calcByzMaxWeight_eq ms h.pos h.fits, subsetWeight_eq B ms h.fits] at hB
  rw [isQuorum_iff h.pos h.fits]
  have c := wt_compl ms (fun i => B.contains i)
  -- on the committee's own ids the filter is the complement of `B`
  have e : wt ms (fun i => ((ms.map (·.id)).filter (fun i => !B.contains i)).contains i)
         = wt ms (fun i => !B.contains i) := by
    apply wt_congr; intro m hm
    have : ∃ a, a ∈ ms ∧ a.id = m.id := ⟨m, hm, rfl⟩
    simp [List.mem_filter, this]
  rw [e]; unfold Q; omega

theorem duplicate_adds_nothing (ms : List Member) (A : List Nat) (x : Nat) (hx : x ∈ A) :
    subsetWeight (x :: A) ms = subsetWeight A ms :=
  subsetWeight_congr fun m _ => by
    by_cases e : m.id = x
    · simp [e, hx]
    · simp [e]

theorem outsider_adds_nothing (ms : List Member) (A : List Nat) (x : Nat)
    (hx : ∀ m ∈ ms, m.id ≠ x) : subsetWeight (x :: A) ms = subsetWeight A ms :=
  subsetWeight_congr fun m hm => by simp [hx m hm]

theorem zero_weight_adds_nothing (ms : List Member) (h : Fits ms) (A : List Nat) (x : Nat)
    (hx : ∀ m ∈ ms, m.id = x → m.weight = 0) : subsetWeight (x :: A) ms = subsetWeight A ms :=
  subsetWeight_congr_pos fun m hm hw => by
    have : m.id ≠ x := fun e => hw (hx m hm e)
    simp [this]

theorem subsetWeight_mono (ms : List Member) (h : Fits ms) (A B : List Nat) (hAB : ∀ i ∈ A, i ∈ B) :
    subsetWeight A ms ≤ subsetWeight B ms := by
  rw [subsetWeight_eq A ms h.fits, subsetWeight_eq B ms h.fits]
  apply wt_mono; intro m _ hm
  simp only [List.contains_eq_mem, decide_eq_true_eq] at hm ⊢
  exact hAB _ hm

theorem isQuorum_mono (ms : List Member) (h : Fits ms) (A B : List Nat) (hAB : ∀ i ∈ A, i ∈ B)
    (hA : (isQuorum A ms).1 = true) : (isQuorum B ms).1 = true := by
  have := subsetWeight_mono ms h A B hAB
  simp only [isQuorum, decide_eq_true_eq, ge_iff_le] at hA ⊢; omega

theorem hasHonest_mono (ms : List Member) (h : Fits ms) (A B : List Nat) (hAB : ∀ i ∈ A, i ∈ B)
    (hA : (hasHonest A ms).1 = true) : (hasHonest B ms).1 = true := by
  have := subsetWeight_mono ms h A B hAB
  simp only [hasHonest, decide_eq_true_eq, gt_iff_lt] at hA ⊢; omega

theorem subsetWeight_ext (ms : List Member) (A B : List Nat) (hAB : ∀ i, i ∈ A ↔ i ∈ B) :
    subsetWeight A ms = subsetWeight B ms :=
  subsetWeight_congr fun m _ => by
    simp only [List.contains_eq_mem]; exact decide_eq_decide.mpr (hAB m.id)

/-- With total weight 0 the code uses Q = 1, so no subset is a quorum (no division by zero, no wrap). -/
theorem zero_total_no_quorum (ms : List Member) (h0 : W ms = 0) (A : List Nat) :
    (isQuorum A ms).1 = false := by
  have hfit : W ms < U64 := by rw [h0]; decide
  have hw := wt_le_W ms (fun i => A.contains i)
  simp only [isQuorum, calcQuorumWeight, sumWeights_getWeights ms hfit, subsetWeight_eq A ms hfit, h0,
    if_true, ge_iff_le, decide_eq_false_iff_not]
  omega

/-! ## non-vacuity: concrete committees meeting every hypothesis, with non-trivial quorums -/

def ex4 : List Member := [⟨10, 1⟩, ⟨11, 2⟩, ⟨12, 3⟩, ⟨13, 4⟩]
example : Fits ex4 := ⟨by decide, by decide⟩
example : (isQuorum [12, 13] ex4).1 = true ∧ (isQuorum [10, 11, 13] ex4).1 = true
    ∧ (isQuorum [10, 11, 12] ex4).1 = false := by decide
example : subsetWeight [12] ex4 ≤ calcByzMaxWeight (getWeights ex4) := by decide
/-- totals above 2^53 (not exact in float64) and just below 2^64 -/
def exBig : List Member := [⟨1, 9007199254740993⟩, ⟨2, 3⟩, ⟨3, 5⟩, ⟨4, 7⟩]
example : Fits exBig := ⟨by decide, by decide⟩
def exHuge : List Member := [⟨1, 18446744073709551612⟩, ⟨2, 1⟩, ⟨3, 1⟩, ⟨4, 1⟩]
example : Fits exHuge ∧ (isQuorum [1] exHuge).1 = true := ⟨⟨by decide, by decide⟩, by decide⟩

end LeanHelix.C06
