import LeanHelix.Lemmas.WorkerActs
import LeanHelix.Lemmas.TermClean
/-!
# C08 / C17 at worker level — what reaches a term's log is of this instance, of the term's height, and not from this node

`WInv TI` is an invariant of `Worker.step` (`worker_step_inv`) over every event sequence, every nesting of
commits and round starts inside deliveries and every SPI answer:
* the installed term is this node's (`cfg.me`, `cfg.inst`), its height is the node's height, and `TI` holds of it;
* every cached message carries this instance id, is stored under its own height and is not from this node.
`TI` is any predicate on term states that a term keeps under what the worker does to it (`TermInv`).  With
`Term.LogClean` — every message in the term's log carries this instance id and the term's height — this
discharges, for executions of the whole worker, the hypotheses "logged messages carry the node's instance
id / the term's height" that the Term-level theorems of C03 and C11 name (`reachable_term_log_is_clean`).
-/
namespace LeanHelix.C08
open LeanHelix LeanHelix.Msg LeanHelix.Worker

structure WInv (TI : Term.Node → Prop) (n : WNode) : Prop where
  term : ∀ t, n.term = some t → t.cfg.me = n.me ∧ t.cfg.inst = n.inst ∧ t.cfg.height = n.height ∧ TI t
  cache : ∀ p ∈ n.cache, ∀ m ∈ p.2, MsgOK n.me n.inst p.1 m

theorem winv_init (TI : Term.Node → Prop) (me inst : Nat) : WInv TI { me := me, inst := inst } :=
  ⟨(by intro t h; cases h), (by intro p h; cases h)⟩

/-! ## the worker's filter: instance, height, own messages -/

/-- a message of another instance, of a lower height, or carrying this node's own id as sender never
reaches the term: the worker's state is unchanged and nothing is emitted -/
theorem filtered_messages_change_nothing (fuel : Nat) (w : WW) (m : Message)
    (h : msgSender m = w.n.me ∨ msgHeight m < w.n.height ∨ msgInst m ≠ w.n.inst) :
    deliver fuel w m = w := by
  rcases deliver_cases fuel w m with e | ⟨⟨h1, _, h3⟩, hh⟩
  · exact e
  · rcases h with h | h | h
    · exact absurd h h3
    · rcases hh with ⟨h4, _⟩ | ⟨h4, _⟩
      · exact absurd h (Nat.lt_asymm h4)
      · exact absurd (h4 ▸ h) (Nat.lt_irrefl _)
    · exact absurd h1 h

theorem msgInst_eq (m : Message) : msgInst m = Term.msgInstT m := by cases m <;> rfl
theorem msgHeight_eq (m : Message) : msgHeight m = Term.msgHeightT m := by cases m <;> rfl

theorem logClean_reg (t : Term.Node) (r : Contexts.Reg) (h : Term.LogClean t) : Term.LogClean { t with reg := r } :=
  ⟨h.pps, h.prepares, h.commits, h.vcs⟩

/-- `TI` is kept by everything the worker does to a term it runs.  `handle` may use the three facts the
worker's filter (`deliver`) has checked of the message, `start` the two that `createTerm` has checked of
the committee; `reg` is there because the worker puts its own registry into the term at every call. -/
structure TermInv (TI : Term.Node → Prop) : Prop where
  reg : ∀ (t : Term.Node) (r : Contexts.Reg), TI t → TI { t with reg := r }
  handle : ∀ (tw : Term.W) (m : Message), msgInst m = tw.n.cfg.inst → msgHeight m = tw.n.cfg.height →
    msgSender m ≠ tw.n.cfg.me → TI tw.n → TI (handle tw m).n
  election : ∀ (tw : Term.W) (h v : Nat), TI tw.n → TI (Term.election tw h v).n
  start : ∀ (cfg : Term.Cfg) (r : Contexts.Reg) (spi : List Term.Spi) (c : Bool),
    cfg.members.any (fun m => m.id == cfg.me) = true → ¬ cfg.members.length < 4 →
    TI (Term.startTerm { n := { ({ cfg := cfg } : Term.Node) with reg := r }, spi := spi } c).n

theorem handle_cfg (tw : Term.W) (m : Message) : (handle tw m).n.cfg = tw.n.cfg := (Term.handle_acts tw m).cfg

theorem logClean_termInv : TermInv Term.LogClean where
  reg := fun t r h => logClean_reg t r h
  handle := fun tw m h1 h2 _ h => (Term.handle_acts tw m).logClean ⟨msgInst_eq m ▸ h1, msgHeight_eq m ▸ h2⟩ h
  election := fun tw h v hl => (Term.election_acts tw h v).logClean trivial hl
  start := fun cfg _ _ c _ _ =>
    (Term.startTerm_acts _ c).logClean trivial (logClean_reg _ _ (Term.logClean_init cfg))

theorem TermInv.and {A B : Term.Node → Prop} (ha : TermInv A) (hb : TermInv B) : TermInv (fun t => A t ∧ B t) where
  reg := fun t r h => ⟨ha.reg t r h.1, hb.reg t r h.2⟩
  handle := fun tw m h1 h2 h3 h => ⟨ha.handle tw m h1 h2 h3 h.1, hb.handle tw m h1 h2 h3 h.2⟩
  election := fun tw h v hh => ⟨ha.election tw h v hh.1, hb.election tw h v hh.2⟩
  start := fun cfg r spi c h1 h2 => ⟨ha.start cfg r spi c h1 h2, hb.start cfg r spi c h1 h2⟩

theorem withTerm_n (w : WW) (t : Term.Node) (f : Term.W → Term.W) :
    (withTerm w t f).1.n.me = w.n.me ∧ (withTerm w t f).1.n.inst = w.n.inst ∧ (withTerm w t f).1.n.height = w.n.height
    ∧ (withTerm w t f).1.n.cache = w.n.cache ∧ (withTerm w t f).1.n.term = w.n.term
    ∧ (withTerm w t f).2 = (f { n := { t with reg := w.n.reg }, spi := (termSpis w.spi).1 }).n := ⟨rfl, rfl, rfl, rfl, rfl, rfl⟩

theorem handInTerm_spec (w : WW) (t : Term.Node) (m : Message) :
    (handInTerm w t m).1.n.me = w.n.me ∧ (handInTerm w t m).1.n.inst = w.n.inst ∧ (handInTerm w t m).1.n.height = w.n.height
    ∧ (handInTerm w t m).1.n.cache = w.n.cache
    ∧ (handInTerm w t m).1.n.term = some (handle { n := { t with reg := w.n.reg }, spi := (termSpis w.spi).1 } m).n := by
  refine ⟨rfl, rfl, rfl, rfl, ?_⟩
  rw [handInTerm_eq]

theorem installTerm_inv {TI : Term.Node → Prop} (hT : TermInv TI) (w : WW) (h : Nat) (c : Bool)
    (hcache : ∀ p ∈ w.n.cache, ∀ m ∈ p.2, MsgOK w.n.me w.n.inst p.1 m) (hh : w.n.height = h) :
    WInv TI (installTerm w h c).n ∧ (installTerm w h c).n.me = w.n.me ∧ (installTerm w h c).n.inst = w.n.inst
    ∧ (installTerm w h c).n.height = h := by
  have hi := installTerm_spec w h c
  refine ⟨⟨fun t ht' => ?_, ?_⟩, hi.me, hi.inst, hi.height.trans hh⟩
  · rcases hi.term with ⟨e, _⟩ | ⟨ms, sp, hmem, hlen, e, _⟩ <;> rw [e] at ht' <;> cases ht'
    rw [(Term.startTerm_acts _ c).cfg, hi.me, hi.inst, hi.height, hh]
    exact ⟨rfl, rfl, rfl, hT.start ⟨w.n.me, w.n.inst, h, ms⟩ _ sp c hmem hlen⟩
  · rw [hi.me, hi.inst, hi.cache]
    exact Cache.All.filter hcache _

theorem handInTerm_inv {TI : Term.Node → Prop} (hT : TermInv TI) (w : WW) (t : Term.Node) (m : Message)
    (hi : WInv TI w.n) (ht : w.n.term = some t) (hm : MsgOK w.n.me w.n.inst w.n.height m) :
    WInv TI (handInTerm w t m).1.n := by
  obtain ⟨t1, t2, t3, t4⟩ := hi.term t ht
  rw [handInTerm_eq]
  refine ⟨fun t' ht' => ?_, hi.cache⟩
  cases ht'
  rw [handle_cfg]
  exact ⟨t1, t2, t3, hT.handle { n := { t with reg := w.n.reg }, spi := (termSpis w.spi).1 } m
    (hm.1.trans t2.symm) (hm.2.1.trans t3.symm) (t1 ▸ hm.2.2) (hT.reg t _ t4)⟩

theorem act_winv {TI : Term.Node → Prop} (hT : TermInv TI) {a b : WW} (h : Act True a b) (hi : WInv TI a.n) : WInv TI b.n := by
  cases h with
  | reg op => exact ⟨hi.term, hi.cache⟩
  | pop sp => exact hi
  | cache c l hc => exact ⟨hi.term, hc trivial⟩
  | start h c hlt => exact (installTerm_inv hT { a with n := { a.n with height := h } } h c hi.cache rfl).1
  | hand t m ht hm => exact handInTerm_inv hT a t m hi ht (hm trivial)
  | commit t m b cs ht hm => exact handInTerm_inv hT a t m hi ht (hm trivial)
  | elect t h v ht =>
    obtain ⟨t1, t2, t3, t4⟩ := hi.term t ht
    refine ⟨fun t' ht' => ?_, hi.cache⟩
    cases ht'
    have hcfg : (withTerm a t fun tw => Term.election tw h v).2.cfg = t.cfg := (Term.election_acts _ h v).cfg
    rw [hcfg]
    exact ⟨t1, t2, t3, hT.election _ h v (hT.reg t _ t4)⟩

theorem acts_winv {TI : Term.Node → Prop} (hT : TermInv TI) {a b : WW} (h : Acts True a b) (hi : WInv TI a.n) :
    WInv TI b.n ∧ b.n.me = a.n.me ∧ b.n.inst = a.n.inst := ⟨h.inv (I := fun w => WInv TI w.n) (act_winv hT) hi, h.frame.me, h.frame.inst⟩

theorem newRound_inv {TI : Term.Node → Prop} (hT : TermInv TI) : ∀ (fuel : Nat) (w : WW) (prevH : Nat) (c : Bool), WInv TI w.n →
    WInv TI (newRound fuel w prevH c).n ∧ (newRound fuel w prevH c).n.me = w.n.me ∧ (newRound fuel w prevH c).n.inst = w.n.inst :=
  fun fuel w prevH c hi => acts_winv hT (newRound_acts fuel w prevH c fun _ => hi.cache) hi

theorem drain_inv {TI : Term.Node → Prop} (hT : TermInv TI) : ∀ (fuel : Nat) (w : WW) (height : Nat) (ms : List Message), WInv TI w.n →
    (∀ m ∈ ms, MsgOK w.n.me w.n.inst height m) →
    WInv TI (drain fuel w height ms).n ∧ (drain fuel w height ms).n.me = w.n.me ∧ (drain fuel w height ms).n.inst = w.n.inst :=
  fun fuel w height ms hi hm => acts_winv hT (drain_acts fuel w height ms (fun _ => hi.cache) fun _ => hm) hi

theorem deliver_inv {TI : Term.Node → Prop} (hT : TermInv TI) (fuel : Nat) (w : WW) (m : Message) (hi : WInv TI w.n) :
    WInv TI (deliver fuel w m).n ∧ (deliver fuel w m).n.me = w.n.me ∧ (deliver fuel w m).n.inst = w.n.inst :=
  acts_winv hT (deliver_acts fuel w m fun _ => hi.cache) hi

theorem election_inv {TI : Term.Node → Prop} (hT : TermInv TI) (w : WW) (h v : Nat) (hi : WInv TI w.n) :
    WInv TI (election w h v).n ∧ (election w h v).n.me = w.n.me ∧ (election w h v).n.inst = w.n.inst :=
  acts_winv hT (election_acts w h v) hi

theorem updateState_inv {TI : Term.Node → Prop} (hT : TermInv TI) (fuel : Nat) (w : WW) (bh : Nat) (hi : WInv TI w.n) :
    WInv TI (updateState fuel w bh).n ∧ (updateState fuel w bh).n.me = w.n.me ∧ (updateState fuel w bh).n.inst = w.n.inst :=
  acts_winv hT (updateState_acts fuel w bh fun _ => hi.cache) hi

/-- **The worker invariant holds after every event** (C08 / C17 for the whole worker): the installed term
is this node's and of the node's height, and `TI` holds of it; the future cache holds only messages of this
instance, each under its own height, none from this node. -/
theorem worker_step_inv {TI : Term.Node → Prop} (hT : TermInv TI) (fuel : Nat) (n : WNode) (e : WEvent) (spi : List WSpi) (hi : WInv TI n) :
    WInv TI (Worker.step fuel n e spi).1 := by
  obtain ⟨w', ha, hs⟩ := step_acts (G := True) fuel n e spi fun _ => hi.cache
  rw [hs]
  exact (acts_winv hT ha hi).1

/-- in the words of the Term-level hypotheses (C03 `hinst`, C11 `hinstPP` / `hinstP`): in every
reachable worker state, every logged message of the installed term carries the term's instance id and height -/
theorem reachable_term_log_is_clean (fuel : Nat) (me inst : Nat) (es : List (WEvent × List WSpi)) (t : Term.Node)
    (ht : (es.foldl (fun n x => (Worker.step fuel n x.1 x.2).1) ({ me := me, inst := inst } : WNode)).term = some t) :
    (∀ m ∈ t.store.pps, m.c.header.inst = t.cfg.inst ∧ m.c.header.height = t.cfg.height)
    ∧ (∀ m ∈ t.store.prepares, m.header.inst = t.cfg.inst ∧ m.header.height = t.cfg.height)
    ∧ (∀ m ∈ t.store.commits, m.header.inst = t.cfg.inst ∧ m.header.height = t.cfg.height)
    ∧ (∀ m ∈ t.store.vcs, m.c.header.inst = t.cfg.inst ∧ m.c.header.height = t.cfg.height) := by
  have hi := run_inv (worker_step_inv logClean_termInv fuel) es _ (winv_init Term.LogClean me inst)
  obtain ⟨_, _, _, hl⟩ := hi.term t ht
  exact ⟨hl.pps, hl.prepares, hl.commits, hl.vcs⟩

end LeanHelix.C08
