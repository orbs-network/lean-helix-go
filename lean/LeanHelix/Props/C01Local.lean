import LeanHelix.Lemmas.TermRuns
import LeanHelix.Props.C06
import LeanHelix.Props.C09
import LeanHelix.Props.C10Leader
import LeanHelix.Spec.Safety
/-!
# C01 — the node-local rules of the abstract safety argument hold in every execution of the term model

`Spec/Safety.lean` proves agreement from per-node rules (`Spec.Justified`).  Each rule has a part that
only concerns the node's own earlier statements (one hash per view, no acceptance below a vote, the
lock on stand-alone proposals, a vote carries the proof of the highest prepared view, …) and a part
about certificates made of other members' signed messages.  Here the **local part** (`LocalJ`) is
proved for the term model itself, for every execution: any configuration whose total weight fits 64
bits, any sequence of deliveries the worker lets through (`EventOK`) / election triggers / cancellations, any SPI
answers (`local_rules_hold`).  The statements are the ghost list of the atomic-block decomposition
(`Lemmas/TermRuns.lean`), which erases to exactly the statement-carrying effects the model emits.
`justified_of_local` shows that `LocalJ` plus the certificate part is `Spec.Justified`.
-/
namespace LeanHelix.C01Local
open LeanHelix LeanHelix.Msg LeanHelix.Term

/-! ## the local rules -/

/-- what a node may state next given its own statements so far (newest first): the conjuncts of
`Spec.Justified` that concern only the node's own history -/
def LocalJ (T : List LEv) : LEv → Prop
  | .acc v h f => (∀ h' f', LEv.acc v h' f' ∈ T → h' = h) ∧ (∀ v' pf s, LEv.vote v' pf s ∈ T → v' ≤ v)
      ∧ (0 < v → f = true ∨
          (∀ v0 h0, LEv.com v0 h0 ∈ T → v0 < v ∧ ((∀ v1 h1, LEv.com v1 h1 ∈ T → v1 ≤ v0) → h0 = h)))
  | .com v h => (∃ f, LEv.acc v h f ∈ T) ∧ (∀ v' pf s, LEv.vote v' pf s ∈ T → v' ≤ v)
      ∧ (∀ v' h' f, LEv.acc v' h' f ∈ T → v' ≤ v)
  | .lcom _ _ => True
  | .vote v' pf _ => ∀ v h, LEv.com v h ∈ T → v < v' → ∃ pv hp, pf = some (pv, hp) ∧ v ≤ pv
  | .dec _ => True

inductive LocalValid : List LEv → Prop where
  | nil : LocalValid []
  | cons {T : List LEv} {e : LEv} : LocalValid T → LocalJ T e → LocalValid (e :: T)

theorem com_was_accepted {T : List LEv} (hv : LocalValid T) {v h : Nat} (hc : LEv.com v h ∈ T) : ∃ f, LEv.acc v h f ∈ T := by
  induction hv with
  | nil => cases hc
  | cons hv' hj ih =>
    rcases List.mem_cons.mp hc with rfl | hc'
    · obtain ⟨f, hf⟩ := hj.1
      exact ⟨f, List.mem_cons_of_mem _ hf⟩
    · obtain ⟨f, hf⟩ := ih hc'
      exact ⟨f, List.mem_cons_of_mem _ hf⟩

theorem localValid_suffix {A B : List LEv} (h : LocalValid (A ++ B)) : LocalValid B := by
  induction A with
  | nil => exact h
  | cons a A ih =>
    cases h with
    | cons hv _ => exact ih hv

/-! ## store facts -/

/-- what keeps `GInv.prep` while the log grows.  `Fits`: more PREPAREs keep a quorum only when the 64-bit sum
of weights does not wrap around (`C06.isQuorum_mono`) — the one place the local rules need it -/
theorem extractProof_mono {a b : Node} (hfit : C06.Fits a.cfg.members) (hc : b.cfg = a.cfg)
    (hpp : ∀ v q, a.store.getPP a.cfg.height v = some q → b.store.getPP a.cfg.height v = some q)
    (hpre : a.store.prepares <+: b.store.prepares) (pv : Nat)
    (h : (extractProof a pv).isSome = true) : (extractProof b pv).isSome = true := by
  obtain ⟨ppm, hg, hq, hne⟩ := extractProof_isSome_iff.mp h
  have hsub : ∀ x ∈ a.store.getPrepares a.cfg.height pv ppm.c.header.hash, x ∈ b.store.getPrepares a.cfg.height pv ppm.c.header.hash :=
    fun x hx => mem_getPrepares.mpr ((mem_getPrepares.mp hx).imp_left fun h => hpre.subset h)
  refine extractProof_isSome b pv ppm (by rw [hc]; exact hpp pv ppm hg) ?_ ?_
  · rw [hc]
    refine C06.isQuorum_mono a.cfg.members hfit _ _ ?_ hq
    intro i hi
    simp only [List.mem_append, List.mem_map, List.mem_singleton] at hi ⊢
    rcases hi with ⟨x, hx, rfl⟩ | rfl
    · exact Or.inl ⟨x, hsub x hx, rfl⟩
    · exact Or.inr rfl
  · rw [hc]
    cases hl : a.store.getPrepares a.cfg.height pv ppm.c.header.hash with
    | nil => exact absurd hl hne
    | cons x rest =>
      intro he
      have := hsub x (by rw [hl]; exact List.mem_cons_self ..)
      rw [he] at this; cases this

/-! ## the invariant tying the statements made so far to the node state -/

structure GInv (T : List LEv) (n : Node) : Prop where
  valid : LocalValid T
  accPP : ∀ v h f, LEv.acc v h f ∈ T → ∃ ppm, n.store.getPP n.cfg.height v = some ppm ∧ ppm.c.header.hash = h
  ppAcc : ∀ v ppm, n.store.getPP n.cfg.height v = some ppm → ∃ f, LEv.acc v ppm.c.header.hash f ∈ T
  accView : ∀ v h f, LEv.acc v h f ∈ T → v ≤ n.view
  voteView : ∀ v pf s, LEv.vote v pf s ∈ T → v ≤ n.view
  comPrep : ∀ v h, LEv.com v h ∈ T → ∃ pv, n.prepared = some pv ∧ v ≤ pv
  prep : ∀ pv, n.prepared = some pv → pv ≤ n.view
    ∧ (∃ ppm, n.store.getPP n.cfg.height pv = some ppm ∧ LEv.com pv ppm.c.header.hash ∈ T)
    ∧ (extractProof n pv).isSome = true
  leader : LeaderPPs n

theorem getPP_quiet {a b : Node} (hq : Quiet a b) (v : Nat) :
    b.store.getPP b.cfg.height v = a.store.getPP a.cfg.height v := getPP_congr hq.cfg hq.pps v

theorem ginv_quiet {T : List LEv} {a b : Node} (hfit : C06.Fits a.cfg.members) (hq : Quiet a b) (hT : GInv T a) : GInv T b where
  valid := hT.valid
  accPP := by intro v h f hm; rw [getPP_quiet hq]; exact hT.accPP v h f hm
  ppAcc := by intro v ppm hg; rw [getPP_quiet hq] at hg; exact hT.ppAcc v ppm hg
  accView := by intro v h f hm; exact Nat.le_trans (hT.accView v h f hm) hq.view
  voteView := by intro v pf s hm; exact Nat.le_trans (hT.voteView v pf s hm) hq.view
  comPrep := by intro v h hm; rw [hq.prepared]; exact hT.comPrep v h hm
  prep := by
    intro pv hp
    rw [hq.prepared] at hp
    obtain ⟨p1, p2, p3⟩ := hT.prep pv hp
    refine ⟨Nat.le_trans p1 hq.view, by rw [getPP_quiet hq]; exact p2, ?_⟩
    exact extractProof_mono hfit hq.cfg (fun v q hg => (getPP_pps hq.pps _ v).trans hg) hq.prepares pv p3
  leader := hT.leader.of_same hq.cfg hq.pps hq.lnv

theorem ginv_neutral {T : List LEv} {a : Node} {e : LEv} (hT : GInv T a) (hj : LocalJ T e)
    (h1 : ∀ v h f, e ≠ LEv.acc v h f) (h2 : ∀ v pf s, e = LEv.vote v pf s → v ≤ a.view) (h3 : ∀ v h, e ≠ LEv.com v h) : GInv (e :: T) a where
  valid := .cons hT.valid hj
  accPP := fun v h f hm => hT.accPP v h f (List.mem_of_ne_of_mem (h1 v h f).symm hm)
  ppAcc := fun v ppm hg => (hT.ppAcc v ppm hg).imp fun _ hf => List.mem_cons_of_mem _ hf
  accView := fun v h f hm => hT.accView v h f (List.mem_of_ne_of_mem (h1 v h f).symm hm)
  voteView := fun v pf s hm => (List.mem_cons.mp hm).elim (fun he => h2 v pf s he.symm) (hT.voteView v pf s)
  comPrep := fun v h hm => hT.comPrep v h (List.mem_of_ne_of_mem (h3 v h).symm hm)
  prep := fun pv hp => let ⟨p1, ⟨ppm, hg, hc⟩, p3⟩ := hT.prep pv hp; ⟨p1, ⟨ppm, hg, List.mem_cons_of_mem _ hc⟩, p3⟩
  leader := hT.leader

theorem ginv_store_pp {T : List LEv} {a : Node} (hfit : C06.Fits a.cfg.members) (hT : GInv T a) (ppm : PPMsg) (f : Bool)
    (hh : ppm.c.header.height = a.cfg.height) (hv : ppm.c.header.view = a.view)
    (hnone : a.store.getPP a.cfg.height a.view = none)
    (hlock : 0 < a.view → f = true ∨ lockConflict a ppm = false)
    (hlead : isLeader a.cfg a.cfg.me a.view = true → a.view ≤ a.latestNV) :
    GInv (LEv.acc ppm.c.header.view ppm.c.header.hash f :: T) { a with store := a.store.storePP ppm } := by
  have hstable := storePP_getPP_stable a.store ppm a.cfg.height
  have hnew : (a.store.storePP ppm).getPP a.cfg.height ppm.c.header.view = some ppm :=
    hh ▸ storePP_getPP_new _ _ (by rw [hh, hv]; exact hnone)
  have hcases := storePP_getPP_cases a.store ppm a.cfg.height
  refine ⟨.cons hT.valid ⟨?_, ?_, ?_⟩, ?_, ?_, ?_, ?_, ?_, ?_, ?_⟩
  · -- one hash per view: nothing was accepted in this view before
    intro h' f' hm
    obtain ⟨q, hq, _⟩ := hT.accPP _ h' f' hm
    rw [hv, hnone] at hq; cases hq
  · intro v' pf s hm; rw [hv]; exact hT.voteView v' pf s hm
  · -- the lock: `lockConflict` looks at the proposal of the prepared view only, which is that of the highest
    -- COMMIT-on-prepared (`comPrep`, `prep`)
    intro hpos
    rw [hv] at hpos
    rcases hlock hpos with hf | hlc
    · exact Or.inl hf
    · right
      intro v0 h0 hc0
      obtain ⟨pv, hpv, hle⟩ := hT.comPrep v0 h0 hc0
      obtain ⟨p1, ⟨lp, hglp, hclp⟩, _⟩ := hT.prep pv hpv
      have hlt : pv < a.view := by
        rcases Nat.lt_or_ge pv a.view with h | h
        · exact h
        · have : pv = a.view := by omega
          rw [this, hnone] at hglp; cases hglp
      refine ⟨by rw [hv]; omega, ?_⟩
      intro hmax
      have hv0 : v0 = pv := by have := hmax pv _ hclp; omega
      subst hv0
      obtain ⟨f0, hacc0⟩ := com_was_accepted hT.valid hc0
      obtain ⟨q, hq, hqh⟩ := hT.accPP _ _ _ hacc0
      rw [hglp] at hq
      have : lp = q := Option.some.inj hq
      subst this
      rw [← hqh]
      refine Decidable.by_contra fun hne => ?_
      rw [(lockConflict_iff a ppm).mpr ⟨v0, lp, hpv, by rw [hv]; exact hlt, by rw [hh]; exact hglp, hne⟩] at hlc
      cases hlc
  · intro v h f' hm
    rcases List.mem_cons.mp hm with he | hm
    · injection he with e1 e2 _
      subst e1 e2
      exact ⟨ppm, hnew, rfl⟩
    · obtain ⟨q, hq, hqh⟩ := hT.accPP v h f' hm
      exact ⟨q, hstable v q hq, hqh⟩
  · intro v q hg
    rcases hcases v q hg with h | ⟨rfl, _, rfl, _⟩
    · obtain ⟨f', hf'⟩ := hT.ppAcc v q h; exact ⟨f', List.mem_cons_of_mem _ hf'⟩
    · exact ⟨f, List.mem_cons_self ..⟩
  · intro v h f' hm
    rcases List.mem_cons.mp hm with he | hm
    · injection he with e1 _ _; exact Nat.le_of_eq (e1.trans hv)
    · exact hT.accView v h f' hm
  · exact fun v pf s hm => hT.voteView v pf s ((List.mem_cons.mp hm).resolve_left nofun)
  · exact fun v h hm => hT.comPrep v h ((List.mem_cons.mp hm).resolve_left nofun)
  · intro pv hp
    obtain ⟨p1, ⟨lp, hglp, hclp⟩, p3⟩ := hT.prep pv hp
    exact ⟨p1, ⟨lp, hstable pv lp hglp, List.mem_cons_of_mem _ hclp⟩,
      extractProof_mono (b := { a with store := a.store.storePP ppm }) hfit rfl hstable
        (by rw [storePP_prepares]; exact List.prefix_refl _) pv p3⟩
  · intro v q hg hl
    rcases hcases v q hg with h | ⟨_, _, rfl, _⟩
    · exact hT.leader v q h hl
    · rw [hv] at hl ⊢; exact hlead hl

theorem ginv_prepared {T : List LEv} {a : Node} (hT : GInv T a) (v hash : Nat)
    (hv : v = a.view) (hpp : ∃ ppm, a.store.getPP a.cfg.height v = some ppm ∧ ppm.c.header.hash = hash)
    (hproof : (extractProof a v).isSome = true) :
    GInv (LEv.com v hash :: T) { a with prepared := some v } := by
  obtain ⟨ppm, hg, hhash⟩ := hpp
  refine ⟨.cons hT.valid ⟨?_, ?_, ?_⟩, ?_, ?_, ?_, ?_, ?_, ?_, hT.leader⟩
  · obtain ⟨f, hf⟩ := hT.ppAcc v ppm hg
    rw [hhash] at hf; exact ⟨f, hf⟩
  · intro v' pf s hm; rw [hv]; exact hT.voteView v' pf s hm
  · intro v' h' f hm; rw [hv]; exact hT.accView v' h' f hm
  · exact fun v' h f hm => hT.accPP v' h f ((List.mem_cons.mp hm).resolve_left nofun)
  · exact fun v' q hq => (hT.ppAcc v' q hq).imp fun _ hf => List.mem_cons_of_mem _ hf
  · exact fun v' h f hm => hT.accView v' h f ((List.mem_cons.mp hm).resolve_left nofun)
  · exact fun v' pf s hm => hT.voteView v' pf s ((List.mem_cons.mp hm).resolve_left nofun)
  · intro v' h hm
    refine ⟨v, rfl, ?_⟩
    rcases List.mem_cons.mp hm with he | hm
    · injection he with e1 _; omega
    · obtain ⟨pv, hpv, hle⟩ := hT.comPrep v' h hm
      have := (hT.prep pv hpv).1
      omega
  · intro pv hp
    obtain rfl : v = pv := Option.some.inj hp
    exact ⟨Nat.le_of_eq hv, ⟨ppm, hg, hhash ▸ List.mem_cons_self⟩, hproof⟩

structure OwnProof (T : List LEv) (a : Node) (pv : Nat) (p : Proof) (ppm : PPMsg) : Prop where
  extract : extractProof a pv = some (p, ppm.block)
  getPP : a.store.getPP a.cfg.height pv = some ppm
  view : p.ppRef.view = pv
  hash : p.ppRef.hash = ppm.c.header.hash
  phash : p.pRef.hash = ppm.c.header.hash
  com : LEv.com pv ppm.c.header.hash ∈ T

theorem prepared_vote {T : List LEv} {a : Node} (hT : GInv T a) {pv : Nat} (hp : a.prepared = some pv) :
    ∃ p ppm, voteProof a = some p ∧ voteBlock a = ppm.block ∧ OwnProof T a pv p ppm := by
  obtain ⟨_, ⟨ppm, hg, hcom⟩, hsome⟩ := hT.prep pv hp
  obtain ⟨⟨p, b⟩, hx⟩ := Option.isSome_iff_exists.mp hsome
  obtain ⟨ppm', p0, ps, hg', hps, _, hpe, rfl⟩ := extractProof_eq_some.mp hx
  obtain rfl : ppm = ppm' := Option.some.inj (hg ▸ hg')
  obtain ⟨h1, h2⟩ := vote_of_prepared hp hx
  refine ⟨p, ppm, h1, h2, hx, hg, ?_, ?_, ?_, hcom⟩ <;> rw [hpe]
  · exact (getPP_spec hg).2.2
  · exact (mem_getPrepares.mp (hps ▸ List.mem_cons_self ..)).2.2.2

theorem voteProof_spec {T : List LEv} {a : Node} (hT : GInv T a) (pv : Nat) (hp : a.prepared = some pv) :
    ∃ hp', pfOf (voteProof a) = some (pv, hp') := by
  obtain ⟨p, ppm, h1, _, h⟩ := prepared_vote hT hp
  exact ⟨p.ppRef.hash, by rw [h1, ← h.view]; rfl⟩

theorem ginv_vote {T : List LEv} {a : Node} (hT : GInv T a) (vc : VCMsg) (s : Bool)
    (hp : vc.c.header.proof = voteProof a) : GInv (LEv.vote a.view (pfOf vc.c.header.proof) s :: T) a := by
  refine ginv_neutral hT ?_ (fun _ _ _ h => by cases h) (fun _ _ _ h => by injection h with h; omega) (fun _ _ h => by cases h)
  intro v h hc hlt
  obtain ⟨pv, hpv, hle⟩ := hT.comPrep v h hc
  obtain ⟨hp', e⟩ := voteProof_spec hT pv hpv
  exact ⟨pv, hp', by rw [hp]; exact e, hle⟩

/-- that the statements of the block obey the local rules is `GInv.valid` of the result -/
theorem blk_inv {e : Event} {spi0 : List Spi} {T : List LEv} {a b : Node} {l : List Out} {g : List LEv} (hfit : C06.Fits a.cfg.members)
    (hT : GInv T a) (hb : Blk e spi0 a b l g) : GInv (g.reverse ++ T) b := by
  cases hb with
  | quiet hq _ _ => exact ginv_quiet hfit hq hT
  | log op he => exact ginv_quiet hfit (quiet_apply a fun m h => evOp_ne_pp (h ▸ he)) hT
  | accept ppm f rcpt hh hv hnone hnl hlock hsrc hval =>
    -- the proposal is stored and its acceptance stated; logging the own PREPARE is bookkeeping
    refine ginv_quiet (a := { a with store := a.store.storePP ppm }) hfit (quiet_apply _ (op := .prepare _) nofun)
      (ginv_store_pp hfit hT ppm f hh hv hnone (fun hpos => hlock.resolve_left (by omega)) fun hl => ?_)
    rw [hnl] at hl; cases hl
  | prepared v hash rcpt hv hnot hpp hproof =>
    -- the node becomes prepared and states it; logging the own COMMIT is bookkeeping
    exact ginv_quiet (a := { a with prepared := some v }) hfit (quiet_apply _ (op := .commit _) nofun)
      (ginv_prepared hT v hash hv (hpp.imp fun _ h => ⟨h.1, h.2.1⟩) hproof)
  | late h v hash rcpt hq =>
    exact ginv_neutral hT trivial (by intro _ _ _ h; cases h) (by intro _ _ _ h; cases h) (by intro _ _ h; cases h)
  | decide blk cs h v hash hq hs hcs hcq hpp =>
    exact ginv_quiet hfit hq (ginv_neutral (e := .dec (commitHash cs)) hT trivial (by intro _ _ _ h; cases h)
      (by intro _ _ _ h; cases h) (by intro _ _ h; cases h))
  | propose ppm f o hh hv hnone hlnv hf ho hown hsrc hreq hblk hmsg =>
    exact ginv_store_pp hfit hT ppm f hh hv hnone (fun hpos => .inl (hf.resolve_left (by omega))) fun _ => hlnv
  | voteSend vc rcpt hv hp _ _ _ => exact ginv_vote hT vc true hp
  | voteStore vc hv hp hown _ _ _ =>
    exact ginv_quiet hfit (quiet_apply a (op := .vc vc) nofun) (ginv_vote hT vc false hp)

/-! ## at most one acceptance per view -/

def accView : LEv → Option Nat
  | .acc v _ _ => some v
  | _ => none

def AccOnce (T : List LEv) : Prop := (T.filterMap accView).Nodup

theorem accOnce_cons_other {T : List LEv} {x : LEv} (h : AccOnce T) (hx : accView x = none) : AccOnce (x :: T) := by
  unfold AccOnce
  rw [List.filterMap_cons, hx]; exact h

theorem accOnce_cons_acc {T : List LEv} {n : Node} (hT : GInv T n) (h : AccOnce T) (v hash : Nat) (f : Bool)
    (hnone : n.store.getPP n.cfg.height v = none) : AccOnce (LEv.acc v hash f :: T) := by
  refine List.nodup_cons.mpr ⟨fun hm => ?_, h⟩
  obtain ⟨x, hx, hv⟩ := List.mem_filterMap.mp hm
  cases x with
  | acc v' h' f' =>
    cases hv
    obtain ⟨q, hq, _⟩ := hT.accPP _ _ _ hx
    rw [hnone] at hq; cases hq
  | _ => cases hv

theorem blk_accOnce {e : Event} {spi0 : List Spi} {T : List LEv} {a b : Node} {l : List Out} {g : List LEv}
    (hT : GInv T a) (h : AccOnce T) (hb : Blk e spi0 a b l g) : AccOnce (g.reverse ++ T) := by
  cases hb with
  | quiet _ _ _ => exact h
  | log _ _ => exact h
  | accept ppm f rcpt hh hv hnone hnl hlock hsrc hval => exact accOnce_cons_acc hT h _ _ _ (by rw [hv]; exact hnone)
  | prepared _ _ _ _ _ _ _ => exact accOnce_cons_other h rfl
  | late _ _ _ _ _ => exact accOnce_cons_other h rfl
  | decide _ _ _ _ _ _ _ _ _ _ => exact accOnce_cons_other h rfl
  | propose ppm f o hh hv hnone hlnv hf ho hown hsrc hreq hblk hmsg => exact accOnce_cons_acc hT h _ _ _ (by rw [hv]; exact hnone)
  | voteSend _ _ _ _ _ _ _ => exact accOnce_cons_other h rfl
  | voteStore _ _ _ _ _ _ _ => exact accOnce_cons_other h rfl

theorem runs_inv {e : Event} {spi0 : List Spi} {w w' : Term.W} {g : List LEv} (h : Runs e spi0 w w' g) :
    ∀ {T : List LEv}, C06.Fits w.n.cfg.members → GInv T w.n → AccOnce T → GInv (g.reverse ++ T) w'.n ∧ AccOnce (g.reverse ++ T) := by
  induction h with
  | refl => intro T _ hT ha; exact ⟨hT, ha⟩
  | blk _ hb => intro T hfit hT ha; exact ⟨blk_inv hfit hT hb, blk_accOnce hT ha hb⟩
  | trans r1 _ ih1 ih2 =>
    intro T hfit hT ha
    obtain ⟨h1, a1⟩ := ih1 hfit hT ha
    rw [List.reverse_append, List.append_assoc]
    exact ih2 (by rw [runs_cfg r1]; exact hfit) h1 a1

/-! ## executions -/

/-- what the worker lets through to the term (established for the worker model in `C08Worker` /
`WorkerInvariants`): messages of this height; proposals and NEW_VIEWs that carry another member's
signature -/
def EventOK (c : Cfg) : Event → Prop
  | .start _ => False
  | .deliver (.preprepare m) => m.c.header.height = c.height ∧ m.c.sender.id ≠ c.me
  | .deliver (.prepare m) => m.header.height = c.height
  | .deliver (.newView m) => m.header.height = c.height ∧ m.sender.id ≠ c.me
  | _ => True

theorem eventLocal_of_ok (n : Node) (e : Event) (h : EventOK n.cfg e) : EventLocal n e := by
  cases e with
  | start c => exact absurd h (by intro h; exact h)
  | election _ _ => trivial
  | cancelOlder _ _ => trivial
  | deliver m => cases m <;> first | exact h | trivial

abbrev Exec := Node × List Out

def Exec.next (s : Exec) (x : Event × List Spi) : Exec :=
  ((step s.1 x.1 x.2).1, s.2 ++ (step s.1 x.1 x.2).2)

def RunInv (c : Cfg) (s : Exec) : Prop :=
  s.1.cfg = c ∧ ViewsOK s.1 ∧ C10.LVInv s.1 ∧
  ∃ T, GInv T s.1 ∧ AccOnce T ∧ s.2.filterMap stmtOf = T.reverse.filterMap Term.erase

theorem runInv_next (c : Cfg) (hfit : C06.Fits c.members) (s : Exec) (x : Event × List Spi)
    (hi : RunInv c s) (he : EventLocal s.1 x.1) : RunInv c (s.next x) := by
  obtain ⟨hc, hvo, hlv, T, hT, hacc, her⟩ := hi
  obtain ⟨w', g, hr, hstep⟩ := step_runs s.1 x.1 x.2 he hvo hlv hT.leader
  obtain ⟨hT', hacc'⟩ := runs_inv hr (show C06.Fits s.1.cfg.members from hc ▸ hfit) hT hacc
  unfold Exec.next
  rw [hstep]
  refine ⟨(runs_cfg hr).trans hc, ?_, ?_, g.reverse ++ T, hT', hacc', hr.erase_outs her⟩
  · have := step_views s.1 x.1 x.2 hvo; rwa [hstep] at this
  · have := (C10.step_nv s.1 x.1 x.2 hlv).2.1; rwa [hstep] at this

theorem ginv_init (c : Cfg) : GInv [] ({ cfg := c } : Node) where
  valid := .nil
  accPP := by intro v h f hm; cases hm
  ppAcc := by intro v ppm hg; cases hg
  accView := by intro v h f hm; cases hm
  voteView := by intro v pf s hm; cases hm
  comPrep := by intro v h hm; cases hm
  prep := by intro pv hp; cases hp
  leader := by intro v ppm hg; cases hg

theorem run_inv (c : Cfg) (hfit : C06.Fits c.members) (first : Bool) (spi0 : List Spi)
    (es : List (Event × List Spi)) (hes : ∀ x ∈ es, EventOK c x.1) :
    RunInv c (es.foldl Exec.next (Exec.next (({ cfg := c } : Node), []) (.start first, spi0))) :=
  List.foldlRecOn es Exec.next
    (runInv_next c hfit _ _ ⟨rfl, viewsOK_init c, C10.lvInv_init c, [], ginv_init c, List.nodup_nil, rfl⟩ ⟨rfl, rfl⟩)
    fun s hs x hx => runInv_next c hfit s x hs (eventLocal_of_ok s.1 x.1 (by rw [hs.1]; exact hes x hx))

/-- **The local rules hold in every execution of the term model.**  For every configuration whose
total weight fits 64 bits, a term that is started and then handles *any* sequence of deliveries the worker lets
through (`hes`), election triggers and cancellations with *any* SPI answers: there is a list `T` of statements
(newest first) such that (1) every statement obeyed the local rules `LocalJ` with respect to the
statements before it, (2) `T` erases to exactly the PREPREPARE / PREPARE / NEW_VIEW / COMMIT /
VIEW_CHANGE sends and commit callbacks the model emitted, in order, and (3) `T` is tied to the final
state by `GInv`. -/
theorem local_rules_hold (c : Cfg) (hfit : C06.Fits c.members) (first : Bool) (spi0 : List Spi)
    (es : List (Event × List Spi)) (hes : ∀ x ∈ es, EventOK c x.1) :
    ∃ T, LocalValid T
      ∧ (es.foldl Exec.next (Exec.next (({ cfg := c } : Node), []) (.start first, spi0))).2.filterMap stmtOf
          = T.reverse.filterMap Term.erase
      ∧ GInv T (es.foldl Exec.next (Exec.next (({ cfg := c } : Node), []) (.start first, spi0))).1 := by
  obtain ⟨_, _, _, T, hT, _, her⟩ := run_inv c hfit first spi0 es hes
  exact ⟨T, hT.valid, her, hT⟩

theorem localValid_acc_unique {T : List LEv} (hv : LocalValid T) {v h h' : Nat} {f f' : Bool}
    (h1 : LEv.acc v h f ∈ T) (h2 : LEv.acc v h' f' ∈ T) : h = h' := by
  induction hv with
  | nil => cases h1
  | cons hv' hj ih =>
    rcases List.mem_cons.mp h1 with e1 | h1' <;> rcases List.mem_cons.mp h2 with e2 | h2'
    · rw [← e1] at e2; injection e2 with _ e _; exact e.symm
    · subst e1; exact (hj.1 h' f' h2').symm
    · subst e2; exact (hj.1 h f h1')
    · exact ih h1' h2'

/-- **corollary on the wire: in a whole execution a node never accepts two different hashes in one
view** — among all PREPREPAREs, PREPAREs and NEW_VIEWs it ever sends at this height, those of one
view name one block hash. -/
theorem one_hash_per_view (c : Cfg) (hfit : C06.Fits c.members) (first : Bool) (spi0 : List Spi)
    (es : List (Event × List Spi)) (hes : ∀ x ∈ es, EventOK c x.1) (v h h' : Nat)
    (h1 : Stmt.acc v h ∈ (es.foldl Exec.next (Exec.next (({ cfg := c } : Node), []) (.start first, spi0))).2.filterMap stmtOf)
    (h2 : Stmt.acc v h' ∈ (es.foldl Exec.next (Exec.next (({ cfg := c } : Node), []) (.start first, spi0))).2.filterMap stmtOf) :
    h = h' := by
  obtain ⟨T, hv, her, _⟩ := local_rules_hold c hfit first spi0 es hes
  rw [her] at h1 h2
  obtain ⟨f1, m1⟩ := mem_erase_acc h1
  obtain ⟨f2, m2⟩ := mem_erase_acc h2
  exact localValid_acc_unique hv (List.mem_reverse.mp m1) (List.mem_reverse.mp m2)

def accViewS : Stmt → Option Nat
  | .acc v _ => some v
  | _ => none

theorem accView_erase (T : List LEv) : (T.filterMap Term.erase).filterMap accViewS = T.filterMap accView := by
  induction T with
  | nil => rfl
  | cons x xs ih =>
    cases x with
    | acc v h f => simp [Term.erase, accViewS, accView, ih]
    | com v h => simp [List.filterMap_cons, Term.erase, accViewS, accView, ih]
    | lcom v h => simp [List.filterMap_cons, Term.erase, accViewS, accView, ih]
    | dec h => simp [List.filterMap_cons, Term.erase, accViewS, accView, ih]
    | vote v pf s => cases s <;> simp [List.filterMap_cons, Term.erase, accViewS, accView, ih]

/-- **at most one acceptance per view, over whole executions**: among all PREPREPAREs, PREPAREs and
NEW_VIEWs a node sends during a term — any events the worker lets through (`hes`), any SPI answers — no two are for
the same view.  In
particular the PREPREPARE of view 0 goes out at most once, a node never sends both a proposal and a
PREPARE for one view, and never two PREPAREs or two NEW_VIEWs for one view. -/
theorem one_acceptance_per_view (c : Cfg) (hfit : C06.Fits c.members) (first : Bool) (spi0 : List Spi)
    (es : List (Event × List Spi)) (hes : ∀ x ∈ es, EventOK c x.1) :
    (((es.foldl Exec.next (Exec.next (({ cfg := c } : Node), []) (.start first, spi0))).2.filterMap stmtOf).filterMap accViewS).Nodup := by
  obtain ⟨_, _, _, T, _, hacc, her⟩ := run_inv c hfit first spi0 es hes
  rw [her, accView_erase, List.filterMap_reverse, List.Nodup, List.pairwise_reverse]
  exact hacc.imp Ne.symm

/-! ## from the local rules to `Spec.Justified` -/

def lift (n : Nat) : LEv → Spec.Ev
  | .acc v h _ => .acc n v h
  | .com v h => .com n v h
  | .lcom v h => .lcom n v h
  | .vote v pf _ => .vote n v pf
  | .dec h => .dec n h

/-- `T` lists the statements of node `n` that occur in the global history `H` -/
structure Sees (n : Nat) (H : List Spec.Ev) (T : List LEv) : Prop where
  acc : ∀ v h, Spec.Ev.acc n v h ∈ H ↔ ∃ f, LEv.acc v h f ∈ T
  vote : ∀ v pf, Spec.Ev.vote n v pf ∈ H → ∃ s, LEv.vote v pf s ∈ T
  com : ∀ v h, Spec.Ev.com n v h ∈ H ↔ LEv.com v h ∈ T

/-- the part of `Spec.Justified` that is about certificates made of other members' statements -/
def Cert (S : Spec.Setting) (H : List Spec.Ev) : LEv → Prop
  | .acc v h f => 0 < v → f = true → Spec.newViewJust S H v h
  | .com v h => Spec.validCert S H v h
  | .lcom v h => Spec.commitQuorum S H v h
  | .vote _ _ _ => True
  | .dec h => ∃ v, Spec.commitQuorum S H v h

/-- **The local rules and the certificate part together give `Spec.Justified`.** -/
theorem justified_of_local (S : Spec.Setting) (n : Nat) (H : List Spec.Ev) (T : List LEv) (e : LEv)
    (hs : Sees n H T) (hl : LocalJ T e) (hc : Cert S H e) : Spec.Justified S H (lift n e) := by
  cases e with
  | acc v h f =>
    refine ⟨?_, ?_, ?_⟩
    · intro h' hm; obtain ⟨f', hf'⟩ := (hs.acc v h').mp hm; exact hl.1 h' f' hf'
    · intro v' pf hm; obtain ⟨s, hs'⟩ := hs.vote v' pf hm; exact hl.2.1 v' pf s hs'
    · intro hpos
      rcases hl.2.2 hpos with hf | hb
      · exact Or.inl (hc hpos hf)
      · right
        intro v0 h0 hm
        obtain ⟨b1, b2⟩ := hb v0 h0 ((hs.com v0 h0).mp hm)
        exact ⟨b1, fun hmax => b2 (fun v1 h1 hm1 => hmax v1 h1 ((hs.com v1 h1).mpr hm1))⟩
  | com v h =>
    refine ⟨?_, hc, ?_, ?_⟩
    · exact (hs.acc v h).mpr hl.1
    · intro v' pf hm; obtain ⟨s, hs'⟩ := hs.vote v' pf hm; exact hl.2.1 v' pf s hs'
    · intro v' h' hm; obtain ⟨f, hf⟩ := (hs.acc v' h').mp hm; exact hl.2.2 v' h' f hf
  | lcom v h => exact hc
  | vote v pf s =>
    intro v0 h0 hm hlt
    exact hl v0 h0 ((hs.com v0 h0).mp hm) hlt
  | dec h => exact hc

/-! ## non-vacuity: a concrete execution in which the rules are exercised

member 3 of a 4-member committee accepts the proposal of view 0, becomes prepared when member 2's
PREPARE arrives (quorum with the proposer and itself), and on timeout votes for view 1 with the
proof of view 0 — the hypotheses of `local_rules_hold` are met and the statements are not empty -/
def exCfg : Cfg := ⟨3, 7, 5, [⟨1, 1⟩, ⟨2, 1⟩, ⟨3, 1⟩, ⟨4, 1⟩]⟩
def exPP : PPMsg := ⟨⟨⟨tPP, 7, 5, 0, 99⟩, ⟨1, true⟩⟩, some ⟨9, 5, 99⟩⟩
def exEvents : List (Event × List Spi) :=
  [(.deliver (.preprepare exPP), [.verdict true none]),
   (.deliver (.prepare ⟨⟨tP, 7, 5, 0, 99⟩, ⟨2, true⟩⟩), []),
   (.election 5 0, [])]

example : C06.Fits exCfg.members := ⟨by decide, by decide⟩
example : ∀ x ∈ exEvents, EventOK exCfg x.1 := by
  intro x hx
  simp only [exEvents, List.mem_cons, List.not_mem_nil, or_false] at hx
  rcases hx with rfl | rfl | rfl
  · exact ⟨rfl, by decide⟩
  · exact rfl
  · trivial
example : (exEvents.foldl Exec.next (Exec.next (({ cfg := exCfg } : Node), []) (.start true, []))).2.filterMap stmtOf
    = [.acc 0 99, .cmt 0 99, .vote 1 (some (0, 99))] := by decide

end LeanHelix.C01Local
