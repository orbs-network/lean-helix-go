import LeanHelix.Model.Worker
import LeanHelix.Props.C08
import LeanHelix.Lemmas.TermAccept
/-!
# C07 — A node acts in a view above 0 only on a valid NEW_VIEW certificate

About `Term.handleNewView` / `Term.handlePrePrepare`, for every node state and message.  A NEW_VIEW that is not a
`ValidCertificate` (`Lemmas/TermValidators.lean`) leaves the node exactly as it was
(`newview_ignored_unless_valid_certificate`); in an accepted one whose votes carry a proof, the proposal is bound to
the highest-view proof among them (`accepted_newview_reproposes_lock`, with `latestVote_is_highest`; when no vote
carries a proof the consumer validated the fresh block: case (a) of `C04.adopted_proposal_is_validated_or_certified`).

**Known finding D5** (`bare_preprepare_gt0_counterexample`): the code also accepts a *bare* PREPREPARE for its current
view v > 0 (the repository's own test `TestPreprepareAcceptOnlyMatchingViews` demands it), so the full statement
"PREPARE in v > 0 only after a NEW_VIEW" is false of the code; `prepare_only_via_valid_newview_partial` is the
statement with that case excluded.
-/
namespace LeanHelix.C07
open LeanHelix LeanHelix.Msg LeanHelix.Term

/-- **A NEW_VIEW that is not a valid certificate is ignored completely** (nothing stored, nothing sent, no view
change, no SPI call). -/
theorem newview_ignored_unless_valid_certificate (w : Term.W) (nvm : NVMsg)
    (h : ¬ ValidCertificate w.n nvm) : handleNewView w nvm = w :=
  (handleNewView_cases w nvm).elim (·.2) (fun c => absurd ((nvGuards_iff _ _).mp c.1) h)

/-! ## the lock is taken from the highest proof among the votes -/

/-- In the vocabulary of the property (from the theorem above and `latestVote_is_highest`): a NEW_VIEW that is not
ignored and whose votes carry a proof proposes exactly the hash certified by the highest-view proof among them,
with a block that commits to that hash; that proof passed `validatePreparedProof`. -/
theorem accepted_newview_reproposes_lock (w : Term.W) (nvm : NVMsg) (hne : handleNewView w nvm ≠ w)
    (lv : VCContent) (hlv : latestVote nvm.header.votes = some lv) :
    lv ∈ nvm.header.votes
    ∧ (∀ v ∈ nvm.header.votes, v.header.proof.isSome = true → proofView v.header.proof ≤ proofView lv.header.proof)
    ∧ nvm.pp.header.hash = proofHash lv.header.proof
    ∧ commitmentOk nvm.block nvm.pp.header.hash = true
    ∧ validatePreparedProof w.n.cfg w.n.cfg.height nvm.header.view lv.header.proof = true := by
  have hv : ValidCertificate w.n nvm := by
    by_cases c : ValidCertificate w.n nvm
    · exact c
    · exact absurd (newview_ignored_unless_valid_certificate w nvm c) hne
  obtain ⟨_, _, _, _, _, vv, _, _, _, _, lock⟩ := hv
  obtain ⟨hm, _, hmax⟩ := (latestVote_is_highest nvm.header.votes).2 lv hlv
  obtain ⟨hc, hh⟩ := lock lv hlv
  have hvalid := ((isViewChangeValid_iff _ _).mp (vv lv hm).2.2).2.2.2.2.2
  rw [(vv lv hm).2.1] at hvalid
  exact ⟨hm, hmax, hh, by rw [hh]; exact hc, hvalid⟩

/-! ## who can make a node send PREPARE -/

/-- **Only a proposal — a NEW_VIEW or a PREPREPARE — can make a node send PREPARE**: no PREPARE,
COMMIT, VIEW_CHANGE, election timeout, term start or context cancellation ever does, in any state. -/
theorem only_proposals_make_a_node_send_prepare (n : Node) (e : Event) (spi : List Spi)
    (h : ∃ o ∈ (step n e spi).2, isPrepareSend o = true) :
    (∃ m, e = .deliver (.preprepare m)) ∨ (∃ m, e = .deliver (.newView m)) := by
  obtain ⟨rs, pm, hs⟩ := prepare_of_isPrepareSend h
  rw [step_eq] at hs
  rcases stepW_prepare_cases { n := n, spi := spi } e with hq | ⟨_, _, ⟨rfl, _⟩ | ⟨m, rfl, _⟩, _⟩
  · exact absurd (hq rs pm hs) List.not_mem_nil
  · exact .inl ⟨_, rfl⟩
  · exact .inr ⟨m, rfl⟩

/-- **C07, with the known finding D5 excluded**: unless the event is a bare PREPREPARE, a node that
sends PREPARE does so while handling a NEW_VIEW that is a valid certificate for it. -/
theorem prepare_only_via_valid_newview_partial (n : Node) (e : Event) (spi : List Spi)
    (hnotbare : ∀ m, e ≠ .deliver (.preprepare m))
    (h : ∃ o ∈ (step n e spi).2, isPrepareSend o = true) :
    ∃ nvm, e = .deliver (.newView nvm) ∧ ValidCertificate n nvm := by
  obtain ⟨rs, pm, hs⟩ := prepare_of_isPrepareSend h
  rw [step_eq] at hs
  rcases stepW_prepare_cases { n := n, spi := spi } e with hq | ⟨_, _, ⟨rfl, _⟩ | ⟨m, rfl, _, g⟩, _⟩
  · exact absurd (hq rs pm hs) List.not_mem_nil
  · exact absurd rfl (hnotbare _)
  · exact ⟨m, rfl, (nvGuards_iff _ _).mp g⟩

/-! ## known finding D5 -/
def d5Cfg : Cfg := ⟨10, 7, 1, [⟨10, 1⟩, ⟨11, 1⟩, ⟨12, 1⟩, ⟨13, 1⟩]⟩
def d5Node : Node := { cfg := d5Cfg, view := 1 }
def d5Bare : PPMsg := ⟨⟨⟨tPP, 7, 1, 1, 99⟩, ⟨11, true⟩⟩, some ⟨5, 1, 99⟩⟩

/-- **Known finding D5 (open)**: a node in view 1 with an empty log (as after an election timeout) accepts a *bare*
PREPREPARE for view 1 signed by that view's leader — it stores it and sends PREPARE although no NEW_VIEW
certificate exists.  (The repository's `TestPreprepareAcceptOnlyMatchingViews` requires this.) -/
theorem bare_preprepare_gt0_counterexample :
    (step d5Node (.deliver (.preprepare d5Bare)) [.verdict true none]).2.any isPrepareSend = true
    ∧ ((step d5Node (.deliver (.preprepare d5Bare)) [.verdict true none]).1.store.getPP 1 1).isSome = true := by
  decide

/-! ## non-vacuity: a valid NEW_VIEW for view 1 is adopted -/
def exVote (i : Nat) : VCContent := ⟨⟨tVC, 7, 1, 1, none⟩, ⟨i, true⟩⟩
def exNV : NVMsg := ⟨⟨tNV, 7, 1, 1, [exVote 10, exVote 12, exVote 13]⟩, ⟨11, true⟩, ⟨⟨tPP, 7, 1, 1, 99⟩, ⟨11, true⟩⟩, some ⟨5, 1, 99⟩⟩
example : ValidCertificate { cfg := d5Cfg } exNV := by
  unfold ValidCertificate VoteValid; decide
example : (step { cfg := d5Cfg } (.deliver (.newView exNV)) [.verdict true none]).2.any isPrepareSend = true := by decide

end LeanHelix.C07
