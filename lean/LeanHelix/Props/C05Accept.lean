import LeanHelix.Props.C05
/-!
# C05 — the state of a node right after it accepted a proposal

`accepted_state`: after `processPreprepare` on a proposal of the node's current view (none stored for
it yet, block attached, node not prepared in that view) the node holds the proposal, has logged and
sent its PREPARE, its context registry has the shutdown flag and watermark it had, and either its COMMIT is
out as well (the logged PREPAREs already reached the quorum) or it is not prepared and some PREPARE of `R` is
missing — for any `R` that together with the proposer has quorum weight.  This is the precondition `Pre1` of
`C05Net.good_view_decides`; `newview_accepted_state` and `preprepare_accepted_state` reach it through
`handleNewView` and `handlePrePrepare`.
-/
namespace LeanHelix.C05
open LeanHelix LeanHelix.Msg LeanHelix.Term

theorem storePP_getPP_new (s : Store) (m : PPMsg) (hn : s.getPP m.c.header.height m.c.header.view = none) :
    (s.storePP m).getPP m.c.header.height m.c.header.view = some m := Term.storePP_getPP_new s m hn

theorem accepted_state (w : Term.W) (ppm : PPMsg) (b : Block) (c : Cfg) (R : List Nat) (hfit : C06.Fits c.members)
    (hcfg : w.n.cfg = c) (hv : w.n.view = ppm.c.header.view)
    (hnone : w.n.store.getPP ppm.c.header.height ppm.c.header.view = none)
    (hprep : w.n.prepared ≠ some ppm.c.header.view) (hb : ppm.block = some b)
    (hq : isQuorum c (R ++ [ppm.c.sender.id]) = true) :
    (processPreprepare w ppm).n.cfg = c
    ∧ (processPreprepare w ppm).n.view = ppm.c.header.view
    ∧ (processPreprepare w ppm).n.store.getPP ppm.c.header.height ppm.c.header.view = some ppm
    ∧ (ppm.c.header.height, ppm.c.header.view, ppm.c.header.hash, c.me) ∈ (processPreprepare w ppm).n.store.prepares.map C11.pkey
    ∧ Out.send (others c) (.prepare (ownPrepare c ppm.c.header.height ppm.c.header.view ppm.c.header.hash)) ∈ (processPreprepare w ppm).outs
    ∧ RegSame w.n.reg (processPreprepare w ppm).n.reg
    ∧ (CommitSent c ppm.c.header.height ppm.c.header.view ppm.c.header.hash (processPreprepare w ppm)
        ∨ ((processPreprepare w ppm).n.prepared ≠ some ppm.c.header.view
            ∧ ∃ id ∈ R, (ppm.c.header.height, ppm.c.header.view, ppm.c.header.hash, id) ∉ (processPreprepare w ppm).n.store.prepares.map C11.pkey)) := by
  subst hcfg
  rw [processPreprepare_unfold w ppm hv]
  -- view, stored proposal and the PREPARE sent are `Term.adopts`
  have A := Term.adopts w ppm hnone
  have hev := checkPreparedLocally_ev (adoptState w ppm) ppm.c.header.height ppm.c.header.view ppm.c.header.hash
  have hpp1 : (adoptState w ppm).n.store.getPP ppm.c.header.height ppm.c.header.view = some ppm :=
    apply_getPP_stable _ (.prepare _) _ _ _ (Term.storePP_getPP_new _ _ hnone)
  have hprep1 : (adoptState w ppm).n.prepared ≠ some ppm.c.header.view := hprep
  obtain ⟨l, el, _⟩ := A.sent
  -- the state is given explicitly here and below: against `RegSame ?w.n.reg (f ?w …).n.reg` Lean first tries `?w := w`
  -- from the first argument, and refuting that choice afterwards means unfolding `f` (about a thousand times the cost)
  refine ⟨(Term.checkPreparedLocally_view (adoptState w ppm) _ _ _).2, A.view.trans hv, A.stored,
    (hev.storeLe.prepares.map _).subset (storePrepare_firstWins (w.n.store.storePP ppm) _).has_key,
    el ▸ List.mem_append_right _ List.mem_cons_self,
    checkPreparedLocally_same (adoptState w ppm) ppm.c.header.height ppm.c.header.view ppm.c.header.hash, ?_⟩
  rcases checkPreparedLocally_cases (adoptState w ppm) ppm.c.header.height ppm.c.header.view ppm.c.header.hash with ⟨hnc, e⟩ | ⟨_, e⟩ <;> rw [e]
  · -- it did nothing: otherwise the logged PREPAREs of `R` together with the proposer would be a quorum
    exact Or.inr ⟨hprep1, prepare_missing (n := (adoptState w ppm).n) hfit hq hpp1 (by rw [hb]; rfl) rfl hprep1 hnc⟩
  · exact Or.inl (commitSent_of_prepared (adoptState w ppm) _ _ _)

/-- **the state right after adopting a valid NEW_VIEW** (same premises as `C11.valid_newview_is_adopted`,
plus: the block is attached, the node is not prepared in that view, `R` and the proposer have quorum weight) -/
theorem newview_accepted_state (w : Term.W) (nvm : NVMsg) (b : Block) (R : List Nat) (hfit : C06.Fits w.n.cfg.members)
    (hv : C07.ValidCertificate w.n nvm)
    (hpp : C08.PreprepareAuthentic w.n ⟨nvm.pp, nvm.block⟩)
    (hfresh : (latestVote nvm.header.votes).isNone = true →
        (askValidate w nvm.header.height nvm.header.view nvm.block nvm.pp.header.hash).2 = true)
    (hb : nvm.block = some b) (hprep : w.n.prepared ≠ some nvm.header.view)
    (hq : isQuorum w.n.cfg (R ++ [nvm.pp.sender.id]) = true) :
    (handleNewView w nvm).n.cfg = w.n.cfg
    ∧ (handleNewView w nvm).n.view = nvm.header.view
    ∧ (handleNewView w nvm).n.store.getPP nvm.header.height nvm.header.view = some ⟨nvm.pp, nvm.block⟩
    ∧ (nvm.header.height, nvm.header.view, nvm.pp.header.hash, w.n.cfg.me) ∈ (handleNewView w nvm).n.store.prepares.map C11.pkey
    ∧ Out.send (others w.n.cfg) (.prepare (ownPrepare w.n.cfg nvm.header.height nvm.header.view nvm.pp.header.hash)) ∈ (handleNewView w nvm).outs
    ∧ (CommitSent w.n.cfg nvm.header.height nvm.header.view nvm.pp.header.hash (handleNewView w nvm)
        ∨ ((handleNewView w nvm).n.prepared ≠ some nvm.header.view
            ∧ ∃ id ∈ R, (nvm.header.height, nvm.header.view, nvm.pp.header.hash, id) ∉ (handleNewView w nvm).n.store.prepares.map C11.pkey)) := by
  have g := (nvGuards_iff _ _).mpr hv
  obtain ⟨_, hview, e⟩ := (handleNewView_accept_cases w nvm).resolve_left (fun c => c.1 ⟨g, hpp, nvAsk_ok hfresh⟩)
  have ha := (nvAsk_calls w nvm).n
  have i := nvEnter_spec (nvAsk w nvm).1 nvm.header.view
  rw [e, ← processPreprepare_unfold _ _ (hview.trans g.ppView.symm)]
  have hacc := accepted_state (nvEnter (nvAsk w nvm).1 nvm.header.view).1 ⟨nvm.pp, nvm.block⟩ b w.n.cfg R hfit
    (i.cfg.trans ha.cfg) (hview.trans g.ppView.symm) (by rw [i.store, ha.store]; exact hpp.free)
    (by rw [i.prepared, ha.prepared]; show w.n.prepared ≠ some nvm.pp.header.view; rw [g.ppView]; exact hprep) hb hq
  simp only [g.ppView, g.ppHeight] at hacc
  obtain ⟨h1, h2, h3, h4, h5, _, h7⟩ := hacc
  exact ⟨h1, h2, h3, h4, h5, h7⟩

/-- **the state right after accepting a stand-alone PREPREPARE** (authentic, no lock conflict, approved by the consumer, of the node's current view) -/
theorem preprepare_accepted_state (w : Term.W) (ppm : PPMsg) (b : Block) (R : List Nat) (hfit : C06.Fits w.n.cfg.members)
    (hauth : C08.PreprepareAuthentic w.n ppm) (hlock : lockConflict w.n ppm = false)
    (hok : (askValidate w ppm.c.header.height ppm.c.header.view ppm.block ppm.c.header.hash).2 = true)
    (hview : w.n.view = ppm.c.header.view)
    (hb : ppm.block = some b) (hprep : w.n.prepared ≠ some ppm.c.header.view)
    (hq : isQuorum w.n.cfg (R ++ [ppm.c.sender.id]) = true) :
    (handlePrePrepare w ppm).n.cfg = w.n.cfg
    ∧ (handlePrePrepare w ppm).n.view = ppm.c.header.view
    ∧ (handlePrePrepare w ppm).n.store.getPP ppm.c.header.height ppm.c.header.view = some ppm
    ∧ (ppm.c.header.height, ppm.c.header.view, ppm.c.header.hash, w.n.cfg.me) ∈ (handlePrePrepare w ppm).n.store.prepares.map C11.pkey
    ∧ Out.send (others w.n.cfg) (.prepare (ownPrepare w.n.cfg ppm.c.header.height ppm.c.header.view ppm.c.header.hash)) ∈ (handlePrePrepare w ppm).outs
    ∧ (CommitSent w.n.cfg ppm.c.header.height ppm.c.header.view ppm.c.header.hash (handlePrePrepare w ppm)
        ∨ ((handlePrePrepare w ppm).n.prepared ≠ some ppm.c.header.view
            ∧ ∃ id ∈ R, (ppm.c.header.height, ppm.c.header.view, ppm.c.header.hash, id) ∉ (handlePrePrepare w ppm).n.store.prepares.map C11.pkey)) := by
  have ha := (askValidate_calls w ppm.c.header.height ppm.c.header.view ppm.block ppm.c.header.hash).n
  obtain ⟨_, e⟩ := (handlePrePrepare_accept_cases w ppm).resolve_left (fun c => c.1 ⟨hauth, hlock, hview, hok⟩)
  rw [e, ← processPreprepare_unfold _ _ (by rw [ha.view]; exact hview)]
  obtain ⟨h1, h2, h3, h4, h5, _, h7⟩ := accepted_state _ ppm b w.n.cfg R hfit ha.cfg (by rw [ha.view]; exact hview)
    (by rw [ha.store]; exact hauth.free) (by rw [ha.prepared]; exact hprep) hb hq
  exact ⟨h1, h2, h3, h4, h5, h7⟩

end LeanHelix.C05
