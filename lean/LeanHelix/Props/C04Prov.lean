import LeanHelix.Props.C04Net
import LeanHelix.Net.Sent
/-!
# C04 — provenance of a committed block, for the network of term models, in one statement

`net_committed_block_provenance`: in every reachable state of the network model, a block a correct
member hands to its commit callback

* is the block of a **proposal stored in that member's log**: a PREPREPARE-typed content for this
  instance, the term's height and some view `v`, whose signed hash is the hash of the certificate;
* that proposal is **signed by the legitimate leader of view `v`** (a verifying signature of the
  member `isLeader` names for `v`, or the member's own proposal in a view it leads);
* the certificate handed over is a non-empty list of COMMITs for exactly (height, `v`, that hash);
* and that hash was **approved by the consumer of at least one correct committee member**
  (`C04Net.net_validity`).

`net_committed_block_matches_certificate` adds, under the consumer contract A2 for the schedule
(`TraceA2`), that the block commits to the certified hash.  That the block's *height field* is the
term's height is the height half of A2 (the model never reads a block's height field).
-/
namespace LeanHelix.C04Net
open LeanHelix LeanHelix.Msg LeanHelix.Term LeanHelix.Spec LeanHelix.Net

variable {C : NetCfg}

/-- **C04, network level, provenance.** -/
theorem net_committed_block_provenance (hwf : WF C) {net : Net} (hr : Reach C net) {a : Nat}
    (ha : C.honest a = true) (hma : ∃ m ∈ C.ms, m.id = a) {b : Block} {cs : List CMsg}
    (hc : Out.commit b cs ∈ net.outs a) :
    ∃ v ppm, ppm ∈ (net.node a).store.pps ∧ ppm.block = some b
      ∧ ppm.c.header.mtype = tPP ∧ ppm.c.header.inst = C.inst ∧ ppm.c.header.height = C.height
      ∧ ppm.c.header.view = v ∧ ppm.c.header.hash = commitHash cs
      ∧ isLeader (C.cfg a) ppm.c.sender.id v = true
      ∧ (ppm.c.sender.ok = true ∨ ppm.c.sender = mySig (C.cfg a))
      ∧ cs ≠ [] ∧ (∀ c ∈ cs, c.header.height = C.height ∧ c.header.view = v ∧ c.header.hash = commitHash cs)
      ∧ ∃ m ∈ C.ms, C.honest m.id = true ∧ ApprovedBy net.trace m.id (commitHash cs) := by
  have hinv := reach_inv hwf hr
  have hcfg := reach_cfg hr a
  have hnode := hinv.node ha hma
  obtain ⟨h, v, ppm, hg, hblk, hhash, hne, hall⟩ := (reach_sent hr a).commits b cs hc
  obtain ⟨hmem, hh, hv⟩ := getPP_spec hg
  obtain ⟨htype, hlead, hsig⟩ := hnode.univ.proposals ppm hmem
  obtain ⟨hinst, hheight⟩ := hnode.univ.clean.pps ppm hmem
  rw [hcfg] at hlead hsig hinst hheight
  have hhC : h = C.height := by rw [← hh]; exact hheight
  refine ⟨v, ppm, hmem, hblk, htype, hinst, hheight, hv, hhash, by rw [← hv]; exact hlead, hsig, hne, ?_,
    net_validity hwf hr ha hma hc⟩
  intro c hcm
  obtain ⟨c1, c2, c3⟩ := hall c hcm
  exact ⟨by rw [c1, hhC], c2, c3⟩

/-- under the consumer contract A2 the committed block commits to the hash of its certificate -/
theorem net_committed_block_matches_certificate (hwf : WF C) {net : Net} (hr : Reach C net) (hA2 : TraceA2 net.trace) {a : Nat}
    (ha : C.honest a = true) (hma : ∃ m ∈ C.ms, m.id = a) {b : Block} {cs : List CMsg}
    (hc : Out.commit b cs ∈ net.outs a) : b.hash = commitHash cs :=
  C01Net.net_committed_block_matches hwf hr hA2 ha hma hc

/-! non-vacuity: in the concrete execution of `C01Net` member 2's commit callback is reached -/
example : ∃ net, Reach C01Net.exC net ∧ ∃ b cs, Out.commit b cs ∈ net.outs 2 := by
  obtain ⟨net, hr, ⟨cs, hout, _⟩, _⟩ := C01Net.ex_two_commits
  exact ⟨net, hr, _, cs, hout⟩

end LeanHelix.C04Net
