import LeanHelix.Net.Sent
/-!
# C10 / C18 at the network level: a correct member's own proposals

Read off `Net.reach_sent` (every NEW_VIEW / PREPREPARE among a member's effects is its stored proposal of that
view; every NEW_VIEW has the shape `onElectedByViewChange` gives it), for every reachable state of the
network model, with no assumption about the adversary or the consumer (the hypotheses `hwf`, `hi`, `hmi` of
`net_newview_only_by_leader` are not used):

* `net_newview_only_by_leader`: a correct member sends a NEW_VIEW only for a view it leads (the member at
  position `view mod size` of the ordered committee), for this instance and height, signed by itself;
* `net_one_proposal_per_view`: all NEW_VIEWs and PREPREPAREs a correct member ever sends for one view carry
  one and the same proposal (signed content and block) — a correct leader does not equivocate, whatever its
  transport reports and however many late votes reach it.
-/
namespace LeanHelix.C10Net
open LeanHelix LeanHelix.Msg LeanHelix.Term LeanHelix.Net

variable {C : NetCfg}

theorem net_newview_only_by_leader (hwf : WF C) {net : Net} (hr : Reach C net) {i : Nat}
    (hi : C.honest i = true) (hmi : ∃ m ∈ C.ms, m.id = i) (rs : List Nat) (nv : NVMsg)
    (hsent : Out.send rs (.newView nv) ∈ net.outs i) :
    isLeader (C.cfg i) i nv.header.view = true ∧ nv.header.inst = C.inst ∧ nv.header.height = C.height
    ∧ nv.sender = mySig (C.cfg i) ∧ nv.pp.sender = nv.sender ∧ nv.pp.header.view = nv.header.view := by
  have hcfg := reach_cfg hr i
  obtain ⟨_, s2, s3, s4, s5, _, _, _, s9, s10, _⟩ := (reach_sent hr i).nvShape rs nv hsent
  rw [hcfg] at s2 s3 s4 s10
  exact ⟨s10, s2, s3, s4, s5, s9⟩

def proposalOf : Message → Option (Nat × PPMsg)
  | .newView nv => some (nv.header.view, ⟨nv.pp, nv.block⟩)
  | .preprepare ppm => some (ppm.c.header.view, ppm)
  | _ => none

theorem net_one_proposal_per_view {net : Net} (hr : Reach C net) (i : Nat)
    (rs1 rs2 : List Nat) (m1 m2 : Message) (v : Nat) (p1 p2 : PPMsg)
    (h1 : Out.send rs1 m1 ∈ net.outs i) (h2 : Out.send rs2 m2 ∈ net.outs i)
    (e1 : proposalOf m1 = some (v, p1)) (e2 : proposalOf m2 = some (v, p2)) : p1 = p2 := by
  have hs := reach_sent hr i
  have key : ∀ (rs : List Nat) (m : Message) (p : PPMsg), Out.send rs m ∈ net.outs i → proposalOf m = some (v, p) →
      (net.node i).store.getPP (net.node i).cfg.height v = some p := by
    intro rs m p hm he
    cases m with
    | newView nv => cases he; exact hs.newViews rs nv hm
    | preprepare ppm => cases he; exact hs.preprepares rs _ hm
    | _ => cases he
  have a := key rs1 m1 p1 h1 e1
  have b := key rs2 m2 p2 h2 e2
  rw [a] at b
  exact Option.some.inj b

end LeanHelix.C10Net
