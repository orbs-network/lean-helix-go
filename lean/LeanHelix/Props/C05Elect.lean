import LeanHelix.Props.C05Net
import LeanHelix.Props.C15Net
/-!
# C05 at the network level, the election phase: from the election timeouts to the leader's NEW_VIEW

`Props/C05Net.lean` composes a good view from the moment its leader has sent its proposal.  This file adds the
phase before that, for a view `v = u + 1` entered by timeout.  The election timers of the crew fire in view `u`:
each follower moves to `v`, holds no proposal for `v` and sends — to the leader of `v` only — a VIEW_CHANGE that
passes every check `handleViewChange` makes at any node of the term (`Net.VoteGood`; `timeouts_send_votes`); the
leader-to-be moves to `v` by its own timer and logs its own vote (`timer_step`); each vote delivered to it is
logged and `checkElected` runs (`vote_step`), so it is elected and sends its NEW_VIEW as soon as the logged votes
are a quorum, which the crew's are.  `good_view_from_timeouts` is these steps followed by
`good_view_from_newview`; `good_view_from_timeouts_approving` is the same with every hypothesis about the
consumers and the registries discharged for consumers that approve.
-/
namespace LeanHelix.C05Net
open LeanHelix LeanHelix.Msg LeanHelix.Term LeanHelix.Spec LeanHelix.Net

variable {C : NetCfg}

theorem getPP_none_above {n : Node} (hv : ViewsOK n) {h v : Nat} (hlt : n.view < v) : n.store.getPP h v = none :=
  getPP_eq_none.mpr fun p hp hk => by have := hv.pp p hp; omega

/-! ## the leader side: a quorum of logged votes makes the leader send its NEW_VIEW -/

/-- what `onElectedByViewChange` needs in order to use the block `RequestNewBlockProposal` returns: `ViewContexts.For`
hands out a context for `(h, v)`, and it is not done afterwards (`ctx.Err() == nil`).  True of every registry that
satisfies `C15.Inv`, is not shut down and whose watermark is not above `(h, v)` (`ctxOK_of_inv`). -/
def CtxOK (r : Contexts.Reg) (h v : Nat) : Prop :=
  ∃ id, (Contexts.step r (.for_ ⟨h, v⟩)).2 = .ctx id ∧ Contexts.done (Contexts.step r (.for_ ⟨h, v⟩)).1 id = false

theorem ctxOK_of_inv (r : Contexts.Reg) (h v : Nat) (hinv : C15.Inv r) (hs : r.shutdown = false) (hst : ¬ C15.stale r ⟨h, v⟩) :
    CtxOK r h v := by
  obtain ⟨id, hid⟩ := C15.Ready.ctx ⟨hs, hst⟩
  exact ⟨id, hid, (C15.handed_out_is_live r hinv ⟨h, v⟩ id hid).1⟩

theorem ctxFor_ok {w : Term.W} {h v : Nat} (hctx : CtxOK w.n.reg h v) :
    ∃ id, (ctxFor w h v).2 = some id ∧ Contexts.done (ctxFor w h v).1.n.reg id = false := by
  obtain ⟨id, hid, hdone⟩ := hctx
  exact ⟨id, by simp [ctxFor, hid], by simpa [ctxFor] using hdone⟩

theorem askProposal_ok (w : Term.W) (h v : Nat) (b : Block) (rest : List Spi)
    (hspi : w.spi = .proposal b none :: rest) (hctx : CtxOK w.n.reg h v) :
    (askProposal w h v).2 = some b ∧ C05.RegSame w.n.reg (askProposal w h v).1.n.reg := by
  obtain ⟨id, hid, hdone⟩ := ctxFor_ok hctx
  rcases askProposal_cases w h v with ⟨hn, _⟩ | ⟨id', hs, ⟨b', cd, rest', hsp, e⟩ | ⟨hno, _⟩⟩
  · rw [hid] at hn; cases hn
  · rw [hid] at hs; cases hs
    rw [hspi] at hsp; cases hsp
    rw [e]
    exact ⟨by simp [cancelMeanwhile, ctxDone, W.emit, hdone], C05.ctxFor_same w h v⟩
  · exact absurd hspi (hno _ _ _)

theorem sendNewView_spec (w : Term.W) (h view : Nat) (vcs : List VCMsg) (b : Block) (hash : Nat) :
    (∃ rs nv, Out.send rs (.newView nv) ∈ (sendNewView w h view vcs b hash).outs ∧ nv.header.view = view)
    ∧ (sendNewView w h view vcs b hash).n.view = w.n.view ∧ (sendNewView w h view vcs b hash).n.cfg = w.n.cfg
    ∧ (sendNewView w h view vcs b hash).n.reg = w.n.reg :=
  ⟨⟨_, _, List.mem_append_right _ (List.mem_singleton.mpr rfl), rfl⟩, rfl, rfl, rfl⟩

/-- `hspi` and `hctx` are used only when no vote carries a block, so that `RequestNewBlockProposal` is called -/
theorem onElected_sends (w : Term.W) (v : Nat) (vcs : List VCMsg) (b : Block) (rest : List Spi)
    (hview : ¬ w.n.view > v) (hspi : w.spi = .proposal b none :: rest) (hctx : CtxOK w.n.reg w.n.cfg.height v) :
    (∃ rs nv, Out.send rs (.newView nv) ∈ (onElectedByViewChange w v vcs).outs ∧ nv.header.view = v)
    ∧ (onElectedByViewChange w v vcs).n.view = v ∧ (onElectedByViewChange w v vcs).n.cfg = w.n.cfg
    ∧ C05.RegSame w.n.reg (onElectedByViewChange w v vcs).n.reg := by
  have hent := nvEnter_ok (w := w) (v := v) (Nat.le_of_not_gt hview)
  have i := nvEnter_spec w v
  have hask := askProposal_ok (nvEnter w v).1 (nvEnter w v).1.n.cfg.height v b rest (i.spi.trans hspi)
    (by rw [i.reg, i.cfg]; exact hctx)
  have hp := (askProposal_calls (nvEnter w v).1 (nvEnter w v).1.n.cfg.height v).n
  rcases onElectedByViewChange_cases w v vcs with ⟨h, _⟩ | ⟨_, ⟨b', hash, _, e⟩ | ⟨_, ⟨hn, _⟩ | ⟨b', _, e⟩⟩⟩
  · rw [hent] at h; cases h
  · obtain ⟨s1, s2, s3, s4⟩ := sendNewView_spec (nvEnter w v).1 (nvEnter w v).1.n.cfg.height v vcs b' hash
    rw [e, s2, s3, s4, i.reg]
    exact ⟨s1, i.view hent, i.cfg, C05.RegSame.refl _⟩
  · rw [hask.1] at hn; cases hn
  · obtain ⟨s1, s2, s3, s4⟩ := sendNewView_spec (askProposal (nvEnter w v).1 (nvEnter w v).1.n.cfg.height v).1 (nvEnter w v).1.n.cfg.height v vcs b' b'.hash
    rw [e, s2, s3, s4]
    exact ⟨s1, hp.view.trans (i.view hent), hp.cfg.trans i.cfg, by rw [← i.reg]; exact hask.2⟩

theorem vkey_stored {s : Store} {m : VCMsg} {k : Nat × Nat × Nat} (hk : C11.vkey m = k) : k ∈ (s.storeVC m).vcs.map C11.vkey :=
  hk ▸ (storeVC_firstWins s m).has_key

/-- `hlnv`: `latestViewThatProcessedVCMOrNVM` is below `v`, so the guard at the head of `checkElected` lets it run -/
theorem checkElected_cases (w : Term.W) (v : Nat) (b : Block) (rest : List Spi)
    (hview : ¬ w.n.view > v) (hlnv : w.n.latestNV < v) (hspi : w.spi = .proposal b none :: rest)
    (hctx : CtxOK w.n.reg w.n.cfg.height v) :
    ((∃ rs nv, Out.send rs (.newView nv) ∈ (checkElected w w.n.cfg.height v).outs ∧ nv.header.view = v)
      ∧ (checkElected w w.n.cfg.height v).n.view = v ∧ (checkElected w w.n.cfg.height v).n.cfg = w.n.cfg
      ∧ C05.RegSame w.n.reg (checkElected w w.n.cfg.height v).n.reg)
    ∨ (checkElected w w.n.cfg.height v = w
        ∧ isQuorum w.n.cfg ((w.n.store.getVCs w.n.cfg.height v).map (·.c.sender.id)) = false) := by
  rcases Term.checkElected_cases w w.n.cfg.height v with ⟨hno | hq, e⟩ | ⟨_, _, e⟩
  · omega
  · exact Or.inr ⟨e, hq⟩
  · rw [e]
    exact Or.inl (onElected_sends w v _ b rest hview hspi hctx)

theorem handleViewChange_checked (w : Term.W) (vcm : VCMsg) (hchk : C11.VoteChecked w.n vcm)
    (hlead : isLeader w.n.cfg w.n.cfg.me vcm.c.header.view = true) (hview : ¬ w.n.view > vcm.c.header.view) :
    handleViewChange w vcm
      = checkElected { w with n := { w.n with store := w.n.store.storeVC vcm } } vcm.c.header.height vcm.c.header.view :=
  ((handleViewChange_cases w vcm).resolve_left (fun h => h.1 ⟨hlead, Nat.le_of_not_gt hview, hchk⟩)).2

theorem spiA2_nil (e : Event) : SpiA2 e [] := by intro cd rest h; cases h
theorem spiA2_proposal (e : Event) (b : Block) (cd : Option Nat) (rest : List Spi) : SpiA2 e (.proposal b cd :: rest) := by
  intro cd' rest' h; cases h

/-- what the election phase asks of the net: the crew is started -/
def SideE (C : NetCfg) (v : Nat) (R : List Nat) (net : Net) : Prop :=
  ∀ k ∈ R ++ [ldr C v], net.started k = true

/-- `moveToNextLeaderByElection` at the leader of `v`, up to its call of `checkElected` -/
def afterTimerL (n : Node) (v : Nat) (spi : List Spi) : Term.W :=
  let n1 : Node := { n with view := v }
  { n := { n1 with store := n1.store.storeVC (C09.voteOnTimeout n1) }, outs := [.registerElection n.cfg.height v], spi := spi }

theorem election_step {n : Node} {j u v : Nat} (hcfg : n.cfg = C.cfg j) (hview : n.view = u) (hv : wrap64 (u + 1) = v)
    (huv : u < v) (spi : List Spi) :
    election { n := n, spi := spi } C.height u =
      if ldr C v = j then checkElected (afterTimerL n v spi) C.height v
      else (({ n := { n with view := v }, spi := spi } : Term.W).emit (.registerElection n.cfg.height v)).emit
        (.send [ldr C v] (.viewChange (C09.voteOnTimeout { n with view := v }))) := by
  have := C09.timeout_vote { n := n, spi := spi } C.height u ⟨by rw [hcfg]; rfl, hview.symm⟩
    (by show ¬ n.view > wrap64 (n.view + 1); rw [hview, hv]; omega)
  simp only at this
  rw [this]
  show (if isLeader n.cfg n.cfg.me (wrap64 (n.view + 1)) = true then _ else _) = _
  rw [hview, hv]
  have hl : isLeader n.cfg n.cfg.me v = (ldr C v == j) := by rw [hcfg]; rfl
  have hid : leaderId n.cfg v = ldr C v := by rw [hcfg]; rfl
  by_cases h : ldr C v = j
  · rw [if_pos h, if_pos (by rw [hl, h]; exact beq_self_eq_true j)]; rfl
  · rw [if_neg h, if_neg (by rw [hl]; simpa using h)]
    show (W.emit _ (.send [leaderId n.cfg v] _)) = _
    rw [hid]; rfl

section elect
variable (hwf : WF C) (u v : Nat) (R : List Nat) (crew : Crew C v R) (hv : wrap64 (u + 1) = v) (huv : u < v)

/-- a follower after its election timeout: what `timeouts_send_votes` reaches -/
def Voted (C : NetCfg) (v : Nat) (j : Nat) (n : Node) (outs : List Out) : Prop :=
  n.cfg = C.cfg j ∧ n.view = v ∧ n.store.getPP C.height v = none
  ∧ Out.send [ldr C v] (.viewChange (ownVote n)) ∈ outs ∧ VoteGood (C.cfg j) (ownVote n)

include hwf crew hv huv in
theorem timeouts_send_votes : ∀ (todo : List Nat), todo.Nodup → (∀ j ∈ todo, j ∈ R) → ∀ (net : Net), Reach C net →
    TraceA2 net.trace → SideE C v R net → (∀ j ∈ todo, (net.node j).view = u) →
    ∃ net', Reach C net' ∧ TraceA2 net'.trace ∧ SideE C v R net'
      ∧ (∀ j ∈ todo, Voted C v j (net'.node j) (net'.outs j) ∧ net'.node j = { net.node j with view := v })
      ∧ (∀ k, k ∉ todo → net'.node k = net.node k ∧ net'.outs k = net.outs k)
      ∧ OutsLe net net' := by
  intro todo hnd hsub net hr hA2 hs hpre
  have hgood := fun j hj => crew.follower (hsub j hj)
  obtain ⟨net', hr', hpost, hsame, hst, hle, _, htr⟩ := phase hwf SpiA2
    (fun j n o => n = { net.node j with view := v }
      ∧ Out.send [ldr C v] (.viewChange (C09.voteOnTimeout { net.node j with view := v })) ∈ o)
    todo hnd net hr (fun j hj => by
      refine ⟨hgood j hj, hs j (List.mem_append_left _ (hsub j hj)), _, _,
        Can.one _ (.election C.height u) [] (fun _ h => by cases h) trivial trivial (spiA2_nil _), ?_⟩
      show (election { n := net.node j, spi := [] } C.height u).n = _ ∧ _ ∈ _ ++ (election { n := net.node j, spi := [] } C.height u).outs
      rw [election_step (reach_cfg hr j) (hpre j hj) hv huv,
        if_neg (fun e => crew.ne_leader (hsub j hj) e.symm)]
      exact ⟨rfl, List.mem_append_right _ (List.mem_cons_of_mem _ List.mem_cons_self)⟩)
  have hA2' : TraceA2 net'.trace := fun t ht => (htr t ht).elim (hA2 t) id
  refine ⟨net', hr', hA2', fun k hk => by rw [hst]; exact hs k hk, fun j hj => ?_, hsame, hle⟩
  obtain ⟨en, hsent⟩ := hpost j hj
  rw [← en, ← ownVote_eq] at hsent
  have hvo := ((reach_inv hwf hr).nodes j (hgood j hj).1 (hgood j hj).2 (hs j (List.mem_append_left _ (hsub j hj)))).views
  refine ⟨⟨reach_cfg hr' j, by rw [en], ?_, hsent,
    (reach_blocks hwf hr' hA2' j (hgood j hj).1 (hgood j hj).2).2.vote hsent⟩, en⟩
  rw [en]
  exact getPP_none_above hvo (by rw [hpre j hj]; exact huv)

/-! ### the leader -/

/-- the leader-to-be of `v` with the votes of `S` logged and not elected: `checkElected` found the logged votes
short of a quorum -/
def PreL (C : NetCfg) (v : Nat) (S : List Nat) (n : Node) : Prop :=
  n.cfg = C.cfg (ldr C v) ∧ n.view = v ∧ n.latestNV < v ∧ CtxOK n.reg C.height v ∧ C05.Live n.reg C.height
  ∧ (∀ id ∈ S, (C.height, v, id) ∈ n.store.vcs.map C11.vkey)
  ∧ isQuorum (C.cfg (ldr C v)) ((n.store.getVCs C.height v).map (·.c.sender.id)) = false

/-- the leader of `v`, elected: what the election phase reaches, and the acceptance phase starts from -/
def ElectedL (C : NetCfg) (v : Nat) (n : Node) (outs : List Out) : Prop :=
  (∃ rs nv, Out.send rs (.newView nv) ∈ outs ∧ nv.header.view = v) ∧ n.view = v ∧ C05.Live n.reg C.height

theorem checkElected_leader (w : Term.W) (b : Block) (rest : List Spi) (S : List Nat) (outs : List Out)
    (hcfg : w.n.cfg = C.cfg (ldr C v)) (hview : w.n.view = v) (hlnv : w.n.latestNV < v) (hspi : w.spi = .proposal b none :: rest)
    (hctx : CtxOK w.n.reg C.height v) (hlive : C05.Live w.n.reg C.height)
    (hkeys : ∀ id ∈ S, (C.height, v, id) ∈ w.n.store.vcs.map C11.vkey) :
    ElectedL C v (checkElected w C.height v).n (outs ++ (checkElected w C.height v).outs) ∨ PreL C v S (checkElected w C.height v).n := by
  have e : checkElected w C.height v = checkElected w w.n.cfg.height v := by rw [hcfg]; rfl
  rw [e]
  rcases checkElected_cases w v b rest (by omega) hlnv hspi (by rw [hcfg]; exact hctx)
    with ⟨⟨rs, nv, hs, hnv⟩, hvw, _, hsame⟩ | ⟨hw, hnq⟩
  · exact Or.inl ⟨⟨rs, nv, List.mem_append_right _ hs, hnv⟩, hvw, C05.Live.of_same hsame hlive⟩
  · rw [hw]; exact Or.inr ⟨hcfg, hview, hlnv, hctx, hlive, hkeys, by rw [hcfg] at hnq; exact hnq⟩

include hv huv in
theorem timer_step {n : Node} (b : Block) (hcfg : n.cfg = C.cfg (ldr C v)) (hview : n.view = u) (hlnv : n.latestNV ≤ n.view)
    (hctx : CtxOK n.reg C.height v) (hlive : C05.Live n.reg C.height) (outs : List Out) :
    ElectedL C v (step n (.election C.height u) [.proposal b none]).1 (outs ++ (step n (.election C.height u) [.proposal b none]).2)
      ∨ PreL C v [ldr C v] (step n (.election C.height u) [.proposal b none]).1 := by
  show ElectedL C v (election { n := n, spi := [.proposal b none] } C.height u).n
    (_ ++ (election { n := n, spi := [.proposal b none] } C.height u).outs) ∨ PreL C v _ (election _ C.height u).n
  rw [election_step hcfg hview hv huv, if_pos rfl]
  refine checkElected_leader v _ b [] _ _ hcfg rfl (by show n.latestNV < v; omega) rfl hctx hlive ?_
  intro id hid
  rw [List.mem_singleton.mp hid]
  exact vkey_stored (by show (n.cfg.height, v, n.cfg.me) = _; rw [hcfg]; rfl)

include hwf crew in
/-- the run is one delivery, of the vote `k` sent in `net`, to the leader-to-be, whose consumer is ready to hand
over `b` (it is asked only if this vote completes the quorum and no logged vote carries a block) -/
theorem vote_step {net : Net} (hr : Reach C net) (b : Block) {k : Nat} (hkR : k ∈ R)
    (hvoted : Voted C v k (net.node k) (net.outs k))
    (hne : ∀ blk, (ownVote (net.node k)).block = some blk → blk.hash ≠ emptyBytes)
    {S : List Nat} {n : Node} (hpre : PreL C v S n) (outs : List Out) :
    (∃ n' l, Can C (ldr C v) net.H SpiA2 n n' l ∧ (ElectedL C v n' (outs ++ l) ∨ PreL C v (k :: S) n')) := by
  obtain ⟨hhk, hmk⟩ := crew.follower hkR
  obtain ⟨kcfg, kview, _, ksent, kgood⟩ := hvoted
  obtain ⟨lcfg, lview, llnv, lctx, llive, lkeys, _⟩ := hpre
  have hvh : (ownVote (net.node k)).c.header.height = C.height := by show (net.node k).cfg.height = _; rw [kcfg]; rfl
  have hvv : (ownVote (net.node k)).c.header.view = v := kview
  have hvi : (ownVote (net.node k)).c.header.inst = C.inst := by show (net.node k).cfg.inst = _; rw [kcfg]; rfl
  have hvs : (ownVote (net.node k)).c.sender.id = k := by show (net.node k).cfg.me = _; rw [kcfg]; rfl
  refine ⟨_, _, Can.one n (.deliver (.viewChange (ownVote (net.node k)))) [.proposal b none] (fun _ h => by cases h)
    ⟨hvi, hvh, by show (ownVote (net.node k)).c.sender.id ≠ ldr C v; rw [hvs]; exact crew.ne_leader hkR, hne⟩
    (C01Net.sent_admissible hwf hr hhk hmk ksent) (spiA2_proposal _ _ _ _), ?_⟩
  show ElectedL C v (handleViewChange { n := n, spi := [.proposal b none] } (ownVote (net.node k))).n
      (_ ++ (handleViewChange { n := n, spi := [.proposal b none] } (ownVote (net.node k))).outs)
    ∨ PreL C v _ (handleViewChange _ (ownVote (net.node k))).n
  -- `w` is given: left to unification, `C11.VoteChecked ?w.n _` is unfolded down to `isViewChangeValid` before `?w` is found
  rw [handleViewChange_checked { n := n, spi := [.proposal b none] } _ (kgood n (by rw [lcfg]; exact ⟨rfl, rfl, rfl⟩))
      (by rw [hvv, lcfg]; show (ldr C v == ldr C v) = true; exact beq_self_eq_true _)
      (by rw [hvv]; show ¬ n.view > v; omega), hvh, hvv]
  refine checkElected_leader v _ b [] _ _ lcfg lview llnv rfl lctx llive ?_
  intro id hid
  rcases List.mem_cons.mp hid with rfl | hid'
  · exact vkey_stored (by
      show ((ownVote (net.node id)).c.header.height, (ownVote (net.node id)).c.header.view, (ownVote (net.node id)).c.sender.id) = _
      rw [hvh, hvv, hvs])
  · exact ((storeVC_firstWins _ _).pfx.map _).subset (lkeys id hid')

include hwf crew in
theorem votes_can {net : Net} (hr : Reach C net) (b : Block) : ∀ (todo S : List Nat) (n : Node) (outs : List Out),
    (∀ k ∈ todo, k ∈ R ∧ Voted C v k (net.node k) (net.outs k)
      ∧ ∀ blk, (ownVote (net.node k)).block = some blk → blk.hash ≠ emptyBytes) →
    (ElectedL C v n outs ∨ PreL C v S n) →
    ∃ n' l, Can C (ldr C v) net.H SpiA2 n n' l ∧ (ElectedL C v n' (outs ++ l) ∨ PreL C v (todo.reverse ++ S) n') := by
  intro todo
  induction todo with
  | nil => intro S n outs _ hst; exact ⟨n, [], .refl, by simpa using hst⟩
  | cons k rest ih =>
    intro S n outs htodo hst
    rcases hst with hel | hpre
    · exact ⟨n, [], .refl, Or.inl (by rw [List.append_nil]; exact hel)⟩
    · obtain ⟨hkR, hvoted, hne⟩ := htodo k List.mem_cons_self
      obtain ⟨n1, l1, hc1, h1⟩ := vote_step hwf v R crew hr b hkR hvoted hne hpre outs
      obtain ⟨n2, l2, hc2, h2⟩ := ih (k :: S) n1 (outs ++ l1) (fun j hj => htodo j (List.mem_cons_of_mem _ hj)) h1
      refine ⟨n2, l1 ++ l2, hc1.trans hc2, ?_⟩
      rw [← List.append_assoc, List.reverse_cons, List.append_assoc (rest.reverse)]
      exact h2

include hwf crew in
theorem votes_reach_leader (b : Block) : ∀ (todo : List Nat) (S : List Nat) (net : Net), Reach C net → TraceA2 net.trace →
    SideE C v R net →
    (∀ k ∈ todo, k ∈ R ∧ Voted C v k (net.node k) (net.outs k)
      ∧ ∀ blk, (ownVote (net.node k)).block = some blk → blk.hash ≠ emptyBytes) →
    (ElectedL C v (net.node (ldr C v)) (net.outs (ldr C v)) ∨ PreL C v S (net.node (ldr C v))) →
    ∃ net', Reach C net' ∧ TraceA2 net'.trace
      ∧ (∀ k, k ≠ ldr C v → net'.node k = net.node k ∧ net'.outs k = net.outs k)
      ∧ (∀ k, net'.started k = net.started k) ∧ OutsLe net net'
      ∧ (ElectedL C v (net'.node (ldr C v)) (net'.outs (ldr C v)) ∨ PreL C v (todo.reverse ++ S) (net'.node (ldr C v))) := by
  intro todo S net hr hA2 hside htodo hst
  obtain ⟨n', l, hc, hfin⟩ := votes_can hwf v R crew hr b todo S _ _ htodo hst
  obtain ⟨net', hr', hf, en, eo, htr⟩ := hc.reach hwf (crew.good _ crew.leader) hr (hside _ crew.leader)
  exact ⟨net', hr', fun t ht => (htr t ht).elim (hA2 t) id, hf.others, hf.started, hf.outsLe, by rw [en, eo]; exact hfin⟩

include hwf crew hv huv in
/-- **From the election timeouts to a decision.**  In any reachable state (schedule so far obeying A2) in
which the crew of view `v = u + 1` (`hv`, `huv`: the `uint64` view counter does not wrap) — its correct leader
and correct followers `R`, together of quorum weight — is in view `u`, started, the leader can still get a
context for its proposal (`CtxOK`) and keeps its term context, no follower's vote carries a block that commits
to the empty hash (`hne`: the clause `noEmptyBlock` of `Gate`, for the votes that are to be delivered), and the
followers' consumers approve the block of the leader's NEW_VIEW where they are asked and keep their term
context (`hval`, `hliveF` speak of every NEW_VIEW of `(height, v)`: which one the leader sends is not known
in this state): letting the election timers of the crew fire, delivering the followers' votes to the leader
until it is elected, and then the NEW_VIEW, the PREPAREs and the COMMITs (`good_view_from_newview`) — all of
them messages the crew really sent — leads to a reachable state in which every crew member has invoked its
commit callback. -/
theorem good_view_from_timeouts {net : Net} (hr : Reach C net) (hA2 : TraceA2 net.trace) (b : Block) (spi : Nat → List Spi)
    (hstarted : ∀ k ∈ R ++ [ldr C v], net.started k = true)
    (hviews : ∀ k ∈ R ++ [ldr C v], (net.node k).view = u)
    (hctx : CtxOK (net.node (ldr C v)).reg C.height v) (hllive : C05.Live (net.node (ldr C v)).reg C.height)
    (hne : ∀ j ∈ R, ∀ blk, voteBlock (net.node j) = some blk → blk.hash ≠ emptyBytes)
    (hval : ∀ j ∈ R, ∀ nv : NVMsg, nv.header.height = C.height → nv.header.view = v → (latestVote nv.header.votes).isNone = true →
      (askValidate { n := { (net.node j) with view := v }, spi := spi j } nv.header.height nv.header.view nv.block nv.pp.header.hash).2 = true)
    (hliveF : ∀ j ∈ R, ∀ nv : NVMsg, nv.header.height = C.height → nv.header.view = v →
      C05.Live (handleNewView { n := { (net.node j) with view := v }, spi := spi j } nv).n.reg C.height) :
    ∃ net', Reach C net' ∧ OutsLe net net'
      ∧ ∀ j ∈ R ++ [ldr C v], ∃ blk cs, Out.commit blk cs ∈ net'.outs j := by
  obtain ⟨hhL, hmL⟩ := crew.good (ldr C v) crew.leader
  obtain ⟨n1, hr1, hA21, hs1, hpost1, hsame1, hle1⟩ := timeouts_send_votes hwf u v R crew hv huv R crew.nodup (fun _ h => h) net hr hA2
    hstarted (fun j hj => hviews j (List.mem_append_left _ hj))
  obtain ⟨eL, _⟩ := hsame1 _ crew.notLeader
  have htimer := timer_step u v hv huv b (reach_cfg hr1 (ldr C v)) (by rw [eL]; exact hviews _ crew.leader)
    ((reach_inv hwf hr1).nodes _ hhL hmL (hs1 _ crew.leader)).lv (by rw [eL]; exact hctx) (by rw [eL]; exact hllive) (n1.outs (ldr C v))
  obtain ⟨n', l, hc, hfin⟩ := votes_can hwf v R crew hr1 b R [ldr C v] _ _ (fun k hk => ⟨hk, (hpost1 k hk).1, by
    intro blk hblk
    rw [(hpost1 k hk).2] at hblk
    exact hne k hk blk hblk⟩) htimer
  obtain ⟨n3, hr3, hf3, en3, eo3, htr3⟩ := ((Can.one (n1.node (ldr C v)) (.election C.height u) [.proposal b none]
      (fun _ h => by cases h) trivial trivial (spiA2_proposal _ _ _ _)).trans hc).reach hwf ⟨hhL, hmL⟩ hr1 (hs1 _ crew.leader)
  have hA23 : TraceA2 n3.trace := fun t ht => (htr3 t ht).elim (hA21 t) id
  rw [List.append_assoc, ← eo3, ← en3] at hfin
  have hel : ElectedL C v (n3.node (ldr C v)) (n3.outs (ldr C v)) := by
    rcases hfin with h | ⟨_, _, _, _, _, hkeys, hnq⟩
    · exact h
    · exfalso
      -- the votes of the whole crew are logged, and the crew is a quorum
      have hq : isQuorum (C.cfg (ldr C v)) (((n3.node (ldr C v)).store.getVCs C.height v).map (·.c.sender.id)) = true := by
        apply C06.isQuorum_mono (C.cfg (ldr C v)).members hwf.fit (R ++ [ldr C v]) _ _ crew.quorum
        intro i hi
        refine Term.mem_getVCs_ids.mpr (hkeys i ?_)
        rcases List.mem_append.mp hi with hi | hi
        · exact List.mem_append_left _ (List.mem_reverse.mpr hi)
        · exact List.mem_append_right _ hi
      rw [hq] at hnq; cases hnq
  obtain ⟨⟨rs, nv, hsent, hnvv⟩, hlview, hllive3⟩ := hel
  have hcfgL := reach_cfg hr3 (ldr C v)
  obtain ⟨_, s2, s3, s4, s5, s6, _, _, _, _, b', hb'⟩ := (reach_sent hr3 (ldr C v)).nvShape rs nv hsent
  rw [hcfgL] at s2 s3 s4
  have hshape : NVShape C v b' nv := ⟨s2, s3, hnvv, hb', by rw [s4]; rfl, s5, s6⟩
  have hfol3 : ∀ j ∈ R, n3.node j = { (net.node j) with view := v } ∧ (n3.node j).store.getPP C.height v = none := by
    intro j hj
    obtain ⟨⟨_, _, hnone, _⟩, hnode⟩ := hpost1 j hj
    have e : n3.node j = n1.node j := (hf3.others j (crew.ne_leader hj)).1
    exact ⟨by rw [e, hnode], by rw [e]; exact hnone⟩
  obtain ⟨n4, hr4, hle4, hc⟩ := good_view_from_newview hwf v b' R crew nv spi hshape hr3 hA23
    ⟨fun k hk => by rw [hf3.started]; exact hs1 k hk, rs, hsent⟩
    (by
      intro j hj
      obtain ⟨e, hnone⟩ := hfol3 j hj
      refine ⟨hnone, by rw [e]; show ¬ v > v; omega, ?_, ?_⟩
      · intro hfresh
        rw [e]
        exact hval j hj nv hshape.height hshape.view hfresh
      · rw [e]
        exact hliveF j hj nv hshape.height hshape.view)
    hlview hllive3
  exact ⟨n4, hr4, (hle1.trans hf3.outsLe).trans hle4, hc⟩

end elect

/-! ## contexts in reachable states (`reach_reg_inv`, Props/C15Net.lean) -/

theorem ctxOK_reach {net : Net} (hr : Reach C net) (i h v : Nat) (hs : (net.node i).reg.shutdown = false)
    (hst : Contexts.isStale (net.node i).reg ⟨h, v⟩ = false) : CtxOK (net.node i).reg h v :=
  ctxOK_of_inv _ h v (reach_reg_inv hr i) hs (by intro hc; rw [(C15.isStale_iff _ _).mpr hc] at hst; cases hst)

/-! ## discharging the consumer-side hypotheses: an approving consumer that never cancels meanwhile -/

theorem askValidate_ok (w : Term.W) (h v : Nat) (blk : Option Block) (hash : Nat) (rest : List Spi)
    (hspi : w.spi = .verdict true none :: rest) (hctx : CtxOK w.n.reg h v) : (askValidate w h v blk hash).2 = true := by
  obtain ⟨id, hid, hdone⟩ := ctxFor_ok hctx
  rcases askValidate_cases w h v blk hash with ⟨hn, _⟩ | ⟨id', hs, ⟨g, cd, rest', hsp, e⟩ | ⟨hno, _⟩⟩
  · rw [hid] at hn; cases hn
  · rw [hid] at hs; cases hs
    rw [hspi] at hsp; cases hsp
    rw [e]
    simp [cancelMeanwhile, ctxDone, W.emit, hdone]
  · exact absurd hspi (hno _ _ _)

def NoCancel (spi : List Spi) : Prop := ∀ g cd rest, spi = Spi.verdict g cd :: rest → cd = none

theorem askValidate_same (w : Term.W) (h v : Nat) (blk : Option Block) (hash : Nat) (hspi : NoCancel w.spi) :
    C05.RegSame w.n.reg (askValidate w h v blk hash).1.n.reg := by
  have h0 := C05.ctxFor_same w h v
  rcases askValidate_cases w h v blk hash with ⟨_, e⟩ | ⟨id, _, ⟨g, cd, rest, hsp, e⟩ | ⟨_, e⟩⟩ <;> rw [e]
  · exact h0
  · rw [hspi g cd rest hsp]; exact h0
  · exact h0

theorem processPreprepare_same (w : Term.W) (ppm : PPMsg) : C05.RegSame w.n.reg (processPreprepare w ppm).n.reg := by
  rcases processPreprepare_cases w ppm with ⟨_, e⟩ | ⟨_, e⟩ <;> rw [e]
  · exact C05.RegSame.refl _
  · exact C05.checkPreparedLocally_same (adoptState w ppm) _ _ _

theorem handleNewView_same (w : Term.W) (nv : NVMsg) (hspi : NoCancel w.spi) :
    C05.RegSame w.n.reg (handleNewView w nv).n.reg := by
  have hask : C05.RegSame w.n.reg (nvAsk w nv).1.n.reg := by
    unfold nvAsk; split
    · exact askValidate_same w _ _ _ _ hspi
    · exact C05.RegSame.refl _
  have hent : C05.RegSame w.n.reg (nvEnter (nvAsk w nv).1 nv.header.view).1.n.reg := by
    rw [(nvEnter_spec _ _).reg]; exact hask
  rcases handleNewView_cases w nv with ⟨_, e⟩ | ⟨_, e⟩ <;> rw [e]
  · exact C05.RegSame.refl _
  rcases adoptNewView_cases w nv with ⟨_, e⟩ | ⟨_, _, ⟨_, e⟩ | ⟨_, e⟩⟩ <;> rw [e]
  · exact hask
  · exact hent
  · exact hent.trans (processPreprepare_same _ _)

theorem noCancel_approve : NoCancel [Spi.verdict true none] := by
  intro g cd rest h
  simp only [List.cons.injEq, Spi.verdict.injEq] at h
  exact h.1.2.symm

/-- **From the election timeouts to a decision, with approving consumers** — every hypothesis a primitive
fact about the state: the crew of view `v = u + 1` is started and in view `u`; no crew member's `ViewContexts` is
shut down or has a watermark above `(height, v)` or above the umbrella position `(height, MaxView)`; no follower's
vote would carry a block committing to the empty hash; the consumers approve what they are asked to validate,
the leader's consumer hands over `b` when asked, and no cancellation arrives during those calls.  (`CtxOK` and the consumer-side hypotheses of
`good_view_from_timeouts` are discharged by the registry invariant `reach_reg_inv`, `askValidate_ok` and
`handleNewView_same`.) -/
theorem good_view_from_timeouts_approving (hwf : WF C) (u v : Nat) (R : List Nat) (crew : Crew C v R)
    (hv : wrap64 (u + 1) = v) (huv : u < v) {net : Net} (hr : Reach C net) (hA2 : TraceA2 net.trace) (b : Block)
    (hstarted : ∀ k ∈ R ++ [ldr C v], net.started k = true)
    (hviews : ∀ k ∈ R ++ [ldr C v], (net.node k).view = u)
    (hregs : ∀ k ∈ R ++ [ldr C v], (net.node k).reg.shutdown = false
      ∧ Contexts.isStale (net.node k).reg ⟨C.height, v⟩ = false ∧ Contexts.isStale (net.node k).reg ⟨C.height, maxView⟩ = false)
    (hne : ∀ j ∈ R, ∀ blk, voteBlock (net.node j) = some blk → blk.hash ≠ emptyBytes) :
    ∃ net', Reach C net' ∧ OutsLe net net'
      ∧ ∀ j ∈ R ++ [ldr C v], ∃ blk cs, Out.commit blk cs ∈ net'.outs j := by
  obtain ⟨l1, l2, l3⟩ := hregs _ crew.leader
  refine good_view_from_timeouts hwf u v R crew hv huv hr hA2 b (fun _ => [.verdict true none]) hstarted hviews
    (ctxOK_reach hr _ _ _ l1 l2) ⟨l1, l3⟩ hne ?_ ?_
  · intro j hj nv hh hvv _
    obtain ⟨f1, f2, _⟩ := hregs j (List.mem_append_left _ hj)
    rw [hh, hvv]
    exact askValidate_ok _ _ _ _ _ [] rfl (ctxOK_reach hr j _ _ f1 f2)
  · intro j hj nv _ _
    obtain ⟨f1, _, f3⟩ := hregs j (List.mem_append_left _ hj)
    exact C05.Live.of_same (handleNewView_same _ nv noCancel_approve) ⟨f1, f3⟩

/-! ## non-vacuity: from three started members in view 0 to three decisions in view 1

Members 1, 2, 3 of `exC` have started (member 1, the leader of view 0, has proposed; nothing was
delivered).  The crew of view 1 — its leader 2 and the followers 1 and 3 — meets every hypothesis of
`good_view_from_timeouts_approving`.  Everything else — the three election timeouts, the two votes, the
NEW_VIEW of member 2 with a fresh block, the PREPAREs and the COMMITs — is the schedule the theorem constructs. -/
open LeanHelix.C01Net in
theorem ex_good_view_from_timeouts :
    ∃ net, Reach exC net ∧ ∀ j ∈ [1, 3, 2], ∃ blk cs, Out.commit blk cs ∈ net.outs j := by
  obtain ⟨net, hr, ⟨hn, hs, ho⟩, ht⟩ := reach_of_sched exWF (exSched5.take 3) (by decide)
  -- the schedule is a prefix of `exSched`, which obeys A2
  have hA2 : TraceA2 net.trace := fun t h => ex_traceA2 t (by
    rw [ht, List.mem_reverse] at h
    exact List.mem_reverse.mpr (List.mem_of_mem_take (List.mem_of_mem_take h)))
  refine decided_listed _ (by decide) (good_view_from_timeouts_approving exWF 0 1 [1, 3] exCrew1 (by decide) (by decide) hr hA2 ⟨77, 5, 4242⟩
    (by rw [hs]; decide) (by rw [hn]; decide) (by rw [hn]; decide)
    (by
      intro j hj blk hblk
      have : j = 1 ∨ j = 3 := by simpa using hj
      rw [hn] at hblk
      rcases this with rfl | rfl
      · have hz : voteBlock ((sim (SimState.init exC) (exSched5.take 3)).node 1) = none := by decide
        rw [hz] at hblk; cases hblk
      · have hz : voteBlock ((sim (SimState.init exC) (exSched5.take 3)).node 3) = none := by decide
        rw [hz] at hblk; cases hblk))

end LeanHelix.C05Net
