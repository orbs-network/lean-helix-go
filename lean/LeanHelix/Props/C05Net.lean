import LeanHelix.Props.C05
import LeanHelix.Props.C13Net
import LeanHelix.Props.C11Net
import LeanHelix.Lemmas.TermIndep
import LeanHelix.Props.C05Accept
import LeanHelix.Net.Sent
/-!
# C05 at the network level: one good view decides (composition of the liveness pieces)

`Props/C05.lean` proves the liveness argument node by node: a node that accepted the proposal of view `v`
and is delivered authentic PREPAREs of quorum weight sends its COMMIT (`prepare_phase`); delivered authentic
COMMITs of quorum weight it commits (`commit_phase`).  Here the pieces are composed over the network model:
from any reachable state in which a crew of correct members of quorum weight — the leader of view `v` and
followers `R` — has accepted the proposal of `v`, the execution can be continued, by delivering only messages
the crew really sent (so the extension is an execution of the network model), to a state in which every crew
member has invoked its commit callback (`good_view_decides`; `good_view_from_preprepare` and
`good_view_from_newview` start earlier, when the leader has sent its proposal).  Which deliveries happen is the
scheduler's choice (after stabilisation: all of them, before any timer of view `v` fires — the timing side is
`C05.catch_up` / `C05.timeout_exceeds_delay` and, on the real nodes, the stabilisation phase of the node suite);
that they *suffice*, whatever else was delivered before and whatever the adversary did, is what is proved here.

How the executions are built.  `member_step`: a started correct member takes one gated, admissible event, and
only its own node and effects change (`Frame`).  `Can C j H A n n' l`: by such events — admissible once the
history contains `H` — member `j`'s node can get from `n` to `n'`, adding the effects `l` (`A` holds of every
step: the consumer contract, where the schedule has to keep it).  `phase`: if every member of a list has,
in one and the same state, such a run to its goal, all of them can take their runs one after the other
(nobody's run touches anybody else's node, admissibility only grows).  So each phase of a view — timers,
votes, proposal, PREPAREs, COMMITs — is a statement about one node (`prepare_can`, `commit_can`, `vote_step`
in `Props/C05Elect.lean`, …) followed by `phase` or `Can.reach`.
-/
namespace LeanHelix.C05Net
open LeanHelix LeanHelix.Msg LeanHelix.Term LeanHelix.Spec LeanHelix.Net

variable {C : NetCfg}

/-! ## one member at a time -/

structure Frame (net net' : Net) (j : Nat) : Prop where
  others : ∀ k, k ≠ j → net'.node k = net.node k ∧ net'.outs k = net.outs k
  started : ∀ k, net'.started k = net.started k
  outs : ∀ o ∈ net.outs j, o ∈ net'.outs j
  hist : ∀ x ∈ net.H, x ∈ net'.H

def OutsLe (net net' : Net) : Prop := ∀ k, ∀ o ∈ net.outs k, o ∈ net'.outs k

theorem OutsLe.trans {a b c : Net} (h1 : OutsLe a b) (h2 : OutsLe b c) : OutsLe a c := fun k o ho => h2 k o (h1 k o ho)

theorem Frame.outsLe {net net' : Net} {j : Nat} (h : Frame net net' j) : OutsLe net net' := by
  intro k o ho
  by_cases hk : k = j
  · subst hk; exact h.outs o ho
  · rw [(h.others k hk).2]; exact ho

theorem Frame.refl (net : Net) (j : Nat) : Frame net net j :=
  ⟨fun _ _ => ⟨rfl, rfl⟩, fun _ => rfl, fun _ h => h, fun _ h => h⟩

theorem Frame.trans {a b c : Net} {j : Nat} (h1 : Frame a b j) (h2 : Frame b c j) : Frame a c j :=
  ⟨fun k hk => ⟨(h2.others k hk).1.trans (h1.others k hk).1, (h2.others k hk).2.trans (h1.others k hk).2⟩,
   fun k => (h2.started k).trans (h1.started k), fun o ho => h2.outs o (h1.outs o ho), fun x hx => h2.hist x (h1.hist x hx)⟩

theorem member_step (hwf : WF C) {net : Net} (hr : Reach C net) {i : Nat} (hi : C.honest i = true ∧ ∃ m ∈ C.ms, m.id = i)
    (hs : net.started i = true) (e : Event) (spi : List Spi)
    (hns : ∀ c, e ≠ .start c) (hg : Gate (C.cfg i) e) (ha : AdmEvent C net.H e) :
    ∃ net', Reach C net' ∧ Frame net net' i ∧ net'.node i = (step (net.node i) e spi).1
      ∧ net'.outs i = net.outs i ++ (step (net.node i) e spi).2 ∧ net'.trace = (i, e, spi) :: net.trace := by
  obtain ⟨g, hstep⟩ := event_next hwf hr hi.1 hi.2 e spi (.inr ⟨hs, hns, hg, ha⟩)
  refine ⟨_, .step hr hstep, ⟨fun k hk => ⟨upd_other _ _ hk, upd_other _ _ hk⟩, fun k => ?_, fun o ho => ?_,
    fun x hx => List.mem_append_right _ hx⟩, upd_same .., upd_same .., rfl⟩
  · show upd net.started i true k = _
    by_cases hk : k = i
    · rw [hk, upd_same, hs]
    · exact upd_other _ _ hk
  · show o ∈ upd net.outs i _ i
    rw [upd_same]; exact List.mem_append_left _ ho

theorem event_step_tr (hwf : WF C) {net : Net} (hr : Reach C net) (i : Nat) (hh : C.honest i = true)
    (hm : ∃ m ∈ C.ms, m.id = i) (hs : net.started i = true) (e : Event) (spi : List Spi)
    (hns : ∀ c, e ≠ .start c) (hg : Gate (C.cfg i) e) (ha : AdmEvent C net.H e) :
    ∃ net', Reach C net' ∧ net'.node i = (step (net.node i) e spi).1
      ∧ net'.outs i = net.outs i ++ (step (net.node i) e spi).2
      ∧ (∀ k, k ≠ i → net'.node k = net.node k ∧ net'.outs k = net.outs k)
      ∧ (∀ k, net'.started k = net.started k)
      ∧ (∀ x ∈ net.H, x ∈ net'.H)
      ∧ (TraceA2 net.trace → SpiA2 e spi → TraceA2 net'.trace) := by
  obtain ⟨net', hr', hf, en, eo, ht⟩ := member_step hwf hr ⟨hh, hm⟩ hs e spi hns hg ha
  exact ⟨net', hr', en, eo, hf.others, hf.started, hf.hist, fun h1 h2 => ht ▸ List.forall_mem_cons.mpr ⟨h2, h1⟩⟩

theorem event_step (hwf : WF C) {net : Net} (hr : Reach C net) (i : Nat) (hh : C.honest i = true)
    (hm : ∃ m ∈ C.ms, m.id = i) (hs : net.started i = true) (e : Event) (spi : List Spi)
    (hns : ∀ c, e ≠ .start c) (hg : Gate (C.cfg i) e) (ha : AdmEvent C net.H e) :
    ∃ net', Reach C net' ∧ net'.node i = (step (net.node i) e spi).1
      ∧ net'.outs i = net.outs i ++ (step (net.node i) e spi).2
      ∧ (∀ k, k ≠ i → net'.node k = net.node k ∧ net'.outs k = net.outs k)
      ∧ (∀ k, net'.started k = net.started k)
      ∧ (∀ x ∈ net.H, x ∈ net'.H) := by
  obtain ⟨net', h1, h2, h3, h4, h5, h6, _⟩ := event_step_tr hwf hr i hh hm hs e spi hns hg ha
  exact ⟨net', h1, h2, h3, h4, h5, h6⟩

inductive Can (C : NetCfg) (j : Nat) (H : List Ev) (A : Event → List Spi → Prop) (n : Node) : Node → List Out → Prop where
  | refl : Can C j H A n n []
  | next {n1 : Node} {l : List Out} (e : Event) (spi : List Spi) : Can C j H A n n1 l → (∀ c, e ≠ .start c) →
      Gate (C.cfg j) e → AdmEvent C H e → A e spi → Can C j H A n (step n1 e spi).1 (l ++ (step n1 e spi).2)

def StepLike {M : Type} (f : Term.W → M → Term.W) (msg : M → Message) : Prop :=
  ∀ w m, (f w m).n = (step w.n (.deliver (msg m)) []).1 ∧ (f w m).outs = w.outs ++ (step w.n (.deliver (msg m)) []).2

section can
variable {j : Nat} {H : List Ev} {A : Event → List Spi → Prop}

theorem Can.one (n : Node) (e : Event) (spi : List Spi) (hns : ∀ c, e ≠ .start c) (hg : Gate (C.cfg j) e)
    (ha : AdmEvent C H e) (hA : A e spi) : Can C j H A n (step n e spi).1 (step n e spi).2 :=
  .next e spi .refl hns hg ha hA

theorem Can.trans {a b c : Node} {l1 l2 : List Out} (h1 : Can C j H A a b l1) (h2 : Can C j H A b c l2) :
    Can C j H A a c (l1 ++ l2) := by
  induction h2 with
  | refl => rw [List.append_nil]; exact h1
  | next e spi _ hns hg ha hA ih => rw [← List.append_assoc]; exact .next e spi ih hns hg ha hA

theorem Can.mono {H' : List Ev} (hsub : ∀ x ∈ H, x ∈ H') {n n' : Node} {l : List Out} (h : Can C j H A n n' l) :
    Can C j H' A n n' l := by
  induction h with
  | refl => exact .refl
  | next e spi _ hns hg ha hA ih => exact .next e spi ih hns hg (AdmEvent.mono hsub ha) hA

theorem Can.deliveries {M : Type} {f : Term.W → M → Term.W} {msg : M → Message} (hf : StepLike f msg) (hA : ∀ e, A e []) :
    ∀ (ms : List M) (w : Term.W), (∀ m ∈ ms, Gate (C.cfg j) (.deliver (msg m)) ∧ AdmMsg C H (msg m)) →
      ∃ l, (ms.foldl f w).outs = w.outs ++ l ∧ Can C j H A w.n (ms.foldl f w).n l := by
  intro ms
  induction ms with
  | nil => intro w _; exact ⟨[], (List.append_nil _).symm, .refl⟩
  | cons m rest ih =>
    intro w h
    obtain ⟨l, el, hc⟩ := ih (f w m) (fun x hx => h x (List.mem_cons_of_mem _ hx))
    obtain ⟨hg, ha⟩ := h m List.mem_cons_self
    refine ⟨_, by rw [List.foldl_cons, el, (hf w m).2, List.append_assoc], ?_⟩
    rw [(hf w m).1] at hc
    exact (Can.one w.n _ [] (fun _ h => by cases h) hg ha (hA _)).trans hc

theorem Can.reach (hwf : WF C) (hj : C.honest j = true ∧ ∃ m ∈ C.ms, m.id = j) {net : Net} (hr : Reach C net)
    (hs : net.started j = true) {n' : Node} {l : List Out} (hc : Can C j net.H A (net.node j) n' l) :
    ∃ net', Reach C net' ∧ Frame net net' j ∧ net'.node j = n' ∧ net'.outs j = net.outs j ++ l
      ∧ ∀ t ∈ net'.trace, t ∈ net.trace ∨ A t.2.1 t.2.2 := by
  induction hc with
  | refl => exact ⟨net, hr, Frame.refl net j, rfl, (List.append_nil _).symm, fun t h => Or.inl h⟩
  | next e spi _ hns hg ha hA ih =>
    obtain ⟨n1, hr1, hf1, en1, eo1, ht1⟩ := ih
    obtain ⟨n2, hr2, hf2, en2, eo2, ht2⟩ := member_step hwf hr1 hj (by rw [hf1.started]; exact hs) e spi hns hg
      (AdmEvent.mono hf1.hist ha)
    refine ⟨n2, hr2, hf1.trans hf2, by rw [en2, en1], by rw [eo2, en1, eo1, List.append_assoc], fun t ht => ?_⟩
    rw [ht2] at ht
    rcases List.mem_cons.mp ht with rfl | ht
    · exact Or.inr hA
    · exact ht1 t ht

end can

theorem phase (hwf : WF C) (A : Event → List Spi → Prop) (Post : Nat → Node → List Out → Prop) :
    ∀ (todo : List Nat), todo.Nodup → ∀ (net : Net), Reach C net →
      (∀ j ∈ todo, (C.honest j = true ∧ ∃ m ∈ C.ms, m.id = j) ∧ net.started j = true
        ∧ ∃ n' l, Can C j net.H A (net.node j) n' l ∧ Post j n' (net.outs j ++ l)) →
      ∃ net', Reach C net' ∧ (∀ j ∈ todo, Post j (net'.node j) (net'.outs j))
        ∧ (∀ k, k ∉ todo → net'.node k = net.node k ∧ net'.outs k = net.outs k)
        ∧ (∀ k, net'.started k = net.started k) ∧ OutsLe net net' ∧ (∀ x ∈ net.H, x ∈ net'.H)
        ∧ (∀ t ∈ net'.trace, t ∈ net.trace ∨ A t.2.1 t.2.2) := by
  intro todo
  induction todo with
  | nil =>
    intro _ net hr _
    exact ⟨net, hr, nofun, fun _ _ => ⟨rfl, rfl⟩, fun _ => rfl, fun _ _ h => h, fun _ h => h, fun _ h => Or.inl h⟩
  | cons j rest ih =>
    intro hnd net hr hcan
    rw [List.nodup_cons] at hnd
    obtain ⟨hj, hs, n', l, hc, hpost⟩ := hcan j List.mem_cons_self
    obtain ⟨n1, hr1, hf, en, eo, ht⟩ := hc.reach hwf hj hr hs
    have hne : ∀ k ∈ rest, k ≠ j := fun k hk e => hnd.1 (e ▸ hk)
    obtain ⟨n2, hr2, hposts, hfr, hst, hle, hh, ht2⟩ := ih hnd.2 n1 hr1 (by
      intro k hk
      obtain ⟨hk', hsk, n'', l', hck, hpk⟩ := hcan k (List.mem_cons_of_mem _ hk)
      rw [(hf.others k (hne k hk)).1, (hf.others k (hne k hk)).2, hf.started]
      exact ⟨hk', hsk, n'', l', hck.mono hf.hist, hpk⟩)
    refine ⟨n2, hr2, ?_, ?_, fun k => (hst k).trans (hf.started k), hf.outsLe.trans hle,
      fun x hx => hh x (hf.hist x hx), fun t h => (ht2 t h).elim (ht t) Or.inr⟩
    · intro k hk
      rcases List.mem_cons.mp hk with rfl | hk
      · rw [(hfr k hnd.1).1, (hfr k hnd.1).2, en, eo]; exact hpost
      · exact hposts k hk
    · intro k hk
      have hkj : k ≠ j := fun e => hk (e ▸ List.mem_cons_self)
      have hkr : k ∉ rest := fun h => hk (List.mem_cons_of_mem _ h)
      exact ⟨(hfr k hkr).1.trans (hf.others k hkj).1, (hfr k hkr).2.trans (hf.others k hkj).2⟩

/-! ## lists of deliveries

A whole list of messages delivered to one member, stated with the fold `runW`.  The composition (`good_view_decides`
and what follows) goes through `Can` / `phase` and uses neither this section nor the next; inside this namespace a
bare `stepW` is the one defined here, not `Term.stepW`. -/

/-- no SPI answers: PREPARE / COMMIT handling asks the consumer nothing -/
def stepW (w : Term.W) (m : Message) : Term.W :=
  { n := (step w.n (.deliver m) []).1, outs := w.outs ++ (step w.n (.deliver m) []).2, spi := [] }

def runW (n : Node) (ms : List Message) : Term.W := ms.foldl stepW { n := n, spi := [] }

theorem deliver_list (hwf : WF C) (j : Nat) (hj : C.honest j = true) (hmj : ∃ m ∈ C.ms, m.id = j) :
    ∀ (ms : List Message) (net : Net), Reach C net → net.started j = true →
      (∀ m ∈ ms, Gate (C.cfg j) (.deliver m)) → (∀ m ∈ ms, AdmMsg C net.H m) →
      ∃ net', Reach C net' ∧ net'.node j = (runW (net.node j) ms).n
        ∧ net'.outs j = net.outs j ++ (runW (net.node j) ms).outs
        ∧ (∀ k, k ≠ j → net'.node k = net.node k ∧ net'.outs k = net.outs k)
        ∧ (∀ k, net'.started k = net.started k)
        ∧ (∀ x ∈ net.H, x ∈ net'.H) := by
  intro ms net hr hs hg ha
  obtain ⟨l, el, hc⟩ := Can.deliveries (A := fun _ _ => True) (f := stepW) (msg := id) (fun _ _ => ⟨rfl, rfl⟩) (fun _ => trivial) ms
    { n := net.node j, spi := [] } (fun m hm => ⟨hg m hm, ha m hm⟩)
  obtain ⟨net', hr', hf, en, eo, _⟩ := hc.reach hwf ⟨hj, hmj⟩ hr hs
  exact ⟨net', hr', en, by rw [eo]; show _ = _ ++ (ms.foldl stepW _).outs; rw [el]; rfl, hf.others, hf.started, hf.hist⟩

/-! ## the fold-style node theorems of C05, read for `runW` -/

theorem stepLike_prepare : StepLike handlePrepare .prepare := fun w m => ⟨handlePrepare_fresh w m, handlePrepare_outs w m⟩
theorem stepLike_commit : StepLike handleCommit .commit := fun w m => ⟨handleCommit_fresh w m, handleCommit_outs w m⟩

theorem foldl_stepW {M : Type} {f : Term.W → M → Term.W} {msg : M → Message} (hf : StepLike f msg) (ms : List M) :
    ∀ (w w' : Term.W), w'.n = w.n → w'.outs = w.outs →
    ((ms.map msg).foldl stepW w').n = (ms.foldl f w).n ∧ ((ms.map msg).foldl stepW w').outs = (ms.foldl f w).outs := by
  induction ms with
  | nil => intro w w' h1 h2; exact ⟨h1, h2⟩
  | cons m rest ih =>
    intro w w' h1 h2
    exact ih _ _ (by rw [(hf w m).1, ← h1]; rfl) (by rw [(hf w m).2, ← h1, ← h2]; rfl)

theorem runW_prepares (pms : List PMsg) : ∀ (w w' : Term.W), w'.n = w.n → w'.outs = w.outs →
    ((pms.map Message.prepare).foldl stepW w').n = (pms.foldl handlePrepare w).n
    ∧ ((pms.map Message.prepare).foldl stepW w').outs = (pms.foldl handlePrepare w).outs :=
  foldl_stepW stepLike_prepare pms

theorem runW_commits (cms : List CMsg) : ∀ (w w' : Term.W), w'.n = w.n → w'.outs = w.outs →
    ((cms.map Message.commit).foldl stepW w').n = (cms.foldl handleCommit w).n
    ∧ ((cms.map Message.commit).foldl stepW w').outs = (cms.foldl handleCommit w).outs :=
  foldl_stepW stepLike_commit cms

/-! ## the good view -/

/-- `C.cfg 0`: the leader of a view is the same at every member, only the committee is read -/
def ldr (C : NetCfg) (v : Nat) : Nat := leaderId (C.cfg 0) v

/-- member `j` holds the leader's proposal of view `v`.  `live` ("keeps its term context" below): its `ViewContexts`
is not shut down and still hands out the umbrella context `(height, MaxView)`, which `checkCommitted` asks for
before it calls `onCommit` -/
structure Holds (C : NetCfg) (v hash : Nat) (b : Block) (j : Nat) (n : Node) : Prop where
  cfg : n.cfg = C.cfg j
  pp : ∃ ppm, n.store.getPP C.height v = some ppm ∧ ppm.block = some b ∧ ppm.c.header.hash = hash ∧ ppm.c.sender.id = ldr C v
  live : C05.Live n.reg C.height

/-- `C05.CommitSent`, read for member `j` and its effects in the net -/
def CommitSentAt (C : NetCfg) (v hash : Nat) (j : Nat) (n : Node) (outs : List Out) : Prop :=
  C03.ckey (ownCommit (C.cfg j) C.height v hash) ∈ n.store.commits.map C03.ckey
  ∧ ∃ rs, Out.send rs (.commit (ownCommit (C.cfg j) C.height v hash)) ∈ outs

theorem Holds.foldl {M : Type} {P} {f : Term.W → M → Term.W} (hev : ∀ w m, Evolves P w.n (f w m).n)
    (hsame : ∀ w m, C05.RegSame w.n.reg (f w m).n.reg) {v hash : Nat} {b : Block} {j : Nat} (ms : List M) :
    ∀ (w : Term.W), Holds C v hash b j w.n → Holds C v hash b j (ms.foldl f w).n := by
  induction ms with
  | nil => intro w h; exact h
  | cons m rest ih =>
    intro w h
    obtain ⟨ppm, hg, r⟩ := h.pp
    exact ih _ ⟨by rw [(hev w m).cfg]; exact h.cfg, ⟨ppm, (hev w m).getPP_stable _ _ _ hg, r⟩, C05.Live.of_same (hsame w m) h.live⟩

theorem holds_commits (v hash : Nat) (b : Block) (j : Nat) (cms : List CMsg) : ∀ (w : Term.W),
    Holds C v hash b j w.n → Holds C v hash b j (cms.foldl handleCommit w).n :=
  Holds.foldl (fun w m => (handleCommit_acts w m).evolves) C05.handleCommit_same cms

/-- the crew of view `v`: correct committee members — the leader of `v` and at least one non-leader, `R` — that
together have quorum weight -/
structure Crew (C : NetCfg) (v : Nat) (R : List Nat) : Prop where
  nodup : R.Nodup
  notLeader : ldr C v ∉ R
  nonempty : R ≠ []
  good : ∀ k ∈ R ++ [ldr C v], C.honest k = true ∧ ∃ m ∈ C.ms, m.id = k
  quorum : isQuorum (C.cfg 0) (R ++ [ldr C v]) = true

/-- a node that has a quorum of COMMITs logged and has not committed commits when any one of them is delivered once more:
the commit check runs again -/
theorem all_logged_commit (ids : List Nat) (h v hash : Nat) (ppm : PPMsg) (b : Block) (c : Cfg) (hfit : C06.Fits c.members)
    (hq : isQuorum c ids = true) (hb : ppm.block = some b) (hh : ppm.c.header.hash = hash)
    (w : Term.W) (hcfg : w.n.cfg = c) (hpp : w.n.store.getPP h v = some ppm) (hlive : C05.Live w.n.reg h)
    (hall : ∀ id ∈ ids, (h, v, hash, id) ∈ w.n.store.commits.map C03.ckey) (hnc : w.n.committed = none)
    (cm : CMsg) (hca : C08.CommitAuthentic w.n cm) (hk : cm.header.height = h ∧ cm.header.view = v ∧ cm.header.hash = hash) :
    (handleCommit w cm).n.committed.isSome = true :=
  C05.commit_phase [cm] h v hash ppm b ids c hfit hq hb hh w hcfg hpp hlive (fun id hid => Or.inl (hall id hid))
    (Or.inr ⟨cm, List.mem_singleton.mpr rfl, hca, cm.sender.id, by rw [C03.ckey, hk.1, hk.2.1, hk.2.2]⟩)

/-- the same for PREPAREs: a quorum logged, the node not prepared; one more PREPARE, and its COMMIT is logged and sent -/
theorem all_logged_prepare (R : List Nat) (h v hash : Nat) (ppm : PPMsg) (c : Cfg) (hfit : C06.Fits c.members)
    (hq : isQuorum c (R ++ [ppm.c.sender.id]) = true) (hbk : ppm.block.isSome = true) (hh : ppm.c.header.hash = hash)
    (w : Term.W) (hcfg : w.n.cfg = c) (hpp : w.n.store.getPP h v = some ppm)
    (hall : ∀ id ∈ R, (h, v, hash, id) ∈ w.n.store.prepares.map C11.pkey) (hnp : w.n.prepared ≠ some v)
    (pm : PMsg) (hpa : C08.PrepareAuthentic w.n pm) (hk : pm.header.height = h ∧ pm.header.view = v ∧ pm.header.hash = hash) :
    C05.CommitSent c h v hash (handlePrepare w pm) :=
  C05.prepare_phase [pm] h v hash ppm R c hfit hq hbk hh (fun x hx => by rw [List.mem_singleton.mp hx]; exact hk.1) w hcfg hpp
    (fun id hid => Or.inl (hall id hid))
    (Or.inr ⟨hnp, pm, List.mem_singleton.mpr rfl, hpa, pm.sender.id, by rw [C11.pkey, hk.1, hk.2.1, hk.2.2]⟩)

/-- what the PREPARE phase starts from (`prepare_can`): member `j` of the crew right after it accepted the proposal of
view `v` -/
def Pre1 (C : NetCfg) (v hash : Nat) (b : Block) (R : List Nat) (j : Nat) (n : Node) (outs : List Out) : Prop :=
  j ∈ R ++ [ldr C v] ∧ Holds C v hash b j n ∧ n.view = v
  ∧ (j ≠ ldr C v → (C.height, v, hash, j) ∈ n.store.prepares.map C11.pkey)
  -- a follower's position right after it accepted the proposal (`C05.accepted_state`): its COMMIT is out,
  -- or it is prepared, or the PREPARE of some crew member is still missing from its log
  ∧ (j ≠ ldr C v → CommitSentAt C v hash j n outs ∨ n.prepared = some v
      ∨ ∃ id ∈ R, (C.height, v, hash, id) ∉ n.store.prepares.map C11.pkey)

/-- between the two phases: what `prepare_can` reaches and `commit_can` starts from -/
structure Post1 (C : NetCfg) (v hash : Nat) (b : Block) (j : Nat) (n : Node) (outs : List Out) : Prop where
  holds : Holds C v hash b j n
  sent : CommitSentAt C v hash j n outs

/-- what the two phases ask of the net: the crew is started, the followers' PREPAREs are out -/
def Side1 (C : NetCfg) (v hash : Nat) (R : List Nat) (net : Net) : Prop :=
  (∀ k ∈ R ++ [ldr C v], net.started k = true)
  ∧ (∀ k ∈ R, Out.send (others (C.cfg k)) (.prepare (ownPrepare (C.cfg k) C.height v hash)) ∈ net.outs k)


theorem Crew.leader {v : Nat} {R : List Nat} (_ : Crew C v R) : ldr C v ∈ R ++ [ldr C v] :=
  List.mem_append_right _ (List.mem_singleton.mpr rfl)

theorem Crew.follower {v : Nat} {R : List Nat} (crew : Crew C v R) {j : Nat} (hj : j ∈ R) :
    C.honest j = true ∧ ∃ m ∈ C.ms, m.id = j := crew.good j (List.mem_append_left _ hj)

theorem Crew.ne_leader {v : Nat} {R : List Nat} (crew : Crew C v R) {j : Nat} (hj : j ∈ R) : j ≠ ldr C v :=
  fun e => crew.notLeader (e ▸ hj)

theorem Crew.nodup' {v : Nat} {R : List Nat} (crew : Crew C v R) : (R ++ [ldr C v]).Nodup := by
  rw [List.nodup_append]
  exact ⟨crew.nodup, by simp, fun a ha c hc e => crew.notLeader (by rw [← List.mem_singleton.mp hc, ← e]; exact ha)⟩

theorem mem_others {α : Type} {S : List Nat} {j : Nat} {f : Nat → α} {x : α} :
    x ∈ (S.filter (fun k => k != j)).map f ↔ ∃ k ∈ S, k ≠ j ∧ x = f k := by
  simp only [List.mem_map, List.mem_filter, bne_iff_ne, ne_eq]
  exact ⟨fun ⟨k, ⟨h1, h2⟩, h3⟩ => ⟨k, h1, h2, h3.symm⟩, fun ⟨k, h1, h2, h3⟩ => ⟨k, ⟨h1, h2⟩, h3.symm⟩⟩

section phases
variable (hwf : WF C) (v hash : Nat) (b : Block) (R : List Nat) (crew : Crew C v R)

include hwf crew in
/-- the run is: the PREPAREs of the other followers, delivered one after the other -/
theorem prepare_can {net : Net} (hr : Reach C net) (hside : Side1 C v hash R net) {j : Nat}
    (hpre : Pre1 C v hash b R j (net.node j) (net.outs j)) :
    ∃ n' l, Can C j net.H (fun _ _ => True) (net.node j) n' l ∧ Post1 C v hash b j n' (net.outs j ++ l) := by
  obtain ⟨hjm, hholds, hview, hown, hsettled⟩ := hpre
  obtain ⟨ppm, hg, hb, hh, hsender⟩ := hholds.pp
  by_cases hcsent : CommitSentAt C v hash j (net.node j) (net.outs j)
  · exact ⟨_, [], .refl, hholds, by rw [List.append_nil]; exact hcsent⟩
  -- not prepared in view v either: a prepared node has logged and sent its COMMIT (`reach_sent`)
  have hprep : (net.node j).prepared ≠ some v := by
    intro hp
    obtain ⟨p0, hg0, hk0, hs0⟩ := (reach_sent hr j).prepared v hp
    rw [hholds.cfg] at hg0 hk0 hs0
    have : p0 = ppm := Option.some.inj (hg0.symm.trans hg)
    rw [this, hh] at hk0 hs0
    exact hcsent ⟨hk0, hs0⟩
  obtain ⟨pms, hmem⟩ : ∃ pms : List PMsg, ∀ pm, pm ∈ pms ↔ ∃ k ∈ R, k ≠ j ∧ pm = ownPrepare (C.cfg k) C.height v hash :=
    ⟨_, fun _ => mem_others⟩
  obtain ⟨l, eo, hcan⟩ := Can.deliveries (A := fun _ _ => True) stepLike_prepare (fun _ => trivial) pms
    { n := net.node j, outs := net.outs j, spi := [] } (by
      intro pm hpm
      obtain ⟨k, hk, hkj, rfl⟩ := (hmem pm).mp hpm
      obtain ⟨hhk, hmk⟩ := crew.follower hk
      exact ⟨⟨rfl, rfl, hkj, trivial⟩, C01Net.sent_admissible hwf hr hhk hmk (hside.2 k hk)⟩)
  have hauth : ∀ id ∈ R, C08.PrepareAuthentic (net.node j) (ownPrepare (C.cfg id) C.height v hash) := by
    intro id hid
    obtain ⟨_, hmid⟩ := crew.follower hid
    refine C11.own_prepare_is_authentic_for_peers { cfg := C.cfg id } (net.node j) C.height v hash
      (by rw [hholds.cfg]; rfl) (isMember_of_mem C id hmid) ?_ (by show (net.node j).view ≤ v; omega)
    show (ldr C v == id) = false
    simp only [beq_eq_false_iff_ne, ne_eq]
    exact fun e => crew.ne_leader hid e.symm
  have hR : ∀ id ∈ R, (C.height, v, hash, id) ∈ (net.node j).store.prepares.map C11.pkey ∨
      ∃ pm ∈ pms, C08.PrepareAuthentic (net.node j) pm ∧ C11.pkey pm = (C.height, v, hash, id) := by
    intro id hid
    by_cases hij : id = j
    · subst hij
      exact Or.inl (hown (crew.ne_leader hid))
    · exact Or.inr ⟨_, (hmem _).mpr ⟨id, hid, hij, rfl⟩, hauth id hid, rfl⟩
  -- `prepare_phase` wants a PREPARE in the list (the check runs when one is handled), so another follower:
  -- `j` is the leader, or some PREPARE of the crew is missing from its log (`Pre1`)
  obtain ⟨k, hk, hkj⟩ : ∃ k ∈ R, k ≠ j := by
    by_cases hjR : j ∈ R
    · rcases hsettled (crew.ne_leader hjR) with hcs | hp | ⟨id, hid, hmiss⟩
      · exact absurd hcs hcsent
      · exact absurd hp hprep
      · exact ⟨id, hid, fun e => hmiss (e ▸ hown (crew.ne_leader hjR))⟩
    · obtain ⟨r0, hr0⟩ := List.exists_mem_of_ne_nil R crew.nonempty
      exact ⟨r0, hr0, fun e => hjR (e ▸ hr0)⟩
  have key := C05.prepare_phase pms C.height v hash ppm R (C.cfg j) hwf.fit (by rw [hsender]; exact crew.quorum) (by rw [hb]; rfl) hh
    (by intro pm hpm; obtain ⟨k, _, _, rfl⟩ := (hmem pm).mp hpm; rfl)
    { n := net.node j, outs := net.outs j, spi := [] } hholds.cfg hg hR
    (Or.inr ⟨hprep, _, (hmem _).mpr ⟨k, hk, hkj, rfl⟩, hauth k hk, k, rfl⟩)
  refine ⟨_, l, hcan, Holds.foldl (fun w m => (handlePrepare_acts w m).evolves) C05.handlePrepare_same pms _ hholds, ?_⟩
  show CommitSentAt C v hash j _ ((({ n := net.node j, outs := net.outs j, spi := [] } : Term.W)).outs ++ l)
  rw [← eo]; exact ⟨key.1, _, key.2⟩

include hwf crew in
/-- the run is: the COMMITs of the other crew members, delivered one after the other -/
theorem commit_can {net : Net} (hr : Reach C net)
    (hsent : ∀ k ∈ R ++ [ldr C v], ∃ rs, Out.send rs (.commit (ownCommit (C.cfg k) C.height v hash)) ∈ net.outs k) {j : Nat}
    (hpre : Post1 C v hash b j (net.node j) (net.outs j)) :
    ∃ n' l, Can C j net.H (fun _ _ => True) (net.node j) n' l ∧ n'.committed.isSome = true := by
  obtain ⟨hholds, hown⟩ := hpre
  let js := R ++ [ldr C v]
  obtain ⟨cms, hmem⟩ : ∃ cms : List CMsg, ∀ cm, cm ∈ cms ↔ ∃ k ∈ js, k ≠ j ∧ cm = ownCommit (C.cfg k) C.height v hash :=
    ⟨_, fun _ => mem_others⟩
  obtain ⟨l, _, hcan⟩ := Can.deliveries (A := fun _ _ => True) stepLike_commit (fun _ => trivial) cms
    { n := net.node j, outs := net.outs j, spi := [] } (by
      intro cm hcm
      obtain ⟨k, hk, hkj, rfl⟩ := (hmem cm).mp hcm
      obtain ⟨hhk, hmk⟩ := crew.good k hk
      obtain ⟨rs, hs⟩ := hsent k hk
      exact ⟨⟨rfl, rfl, hkj, trivial⟩, C01Net.sent_admissible hwf hr hhk hmk hs⟩)
  refine ⟨_, l, hcan, ?_⟩
  obtain ⟨ppm, hg, hb, hh, _⟩ := hholds.pp
  have hauth : ∀ k ∈ js, C08.CommitAuthentic (net.node j) (ownCommit (C.cfg k) C.height v hash) := by
    intro k hk
    obtain ⟨_, hmk⟩ := crew.good k hk
    exact C11.own_commit_is_authentic_for_peers { cfg := C.cfg k } (net.node j) C.height v hash (by rw [hholds.cfg]; rfl) (isMember_of_mem C k hmk)
  have hR : ∀ id ∈ js, (C.height, v, hash, id) ∈ (net.node j).store.commits.map C03.ckey ∨
      ∃ cm ∈ cms, C08.CommitAuthentic (net.node j) cm ∧ C03.ckey cm = (C.height, v, hash, id) := by
    intro id hid
    by_cases hij : id = j
    · subst hij; exact Or.inl hown.1
    · exact Or.inr ⟨_, (hmem _).mpr ⟨id, hid, hij, rfl⟩, hauth id hid, rfl⟩
  -- `commit_phase` wants a COMMIT in the list (the check runs when one is handled): the crew has a second member
  obtain ⟨k, hk, hkj⟩ : ∃ k ∈ js, k ≠ j := by
    obtain ⟨r0, hr0⟩ := List.exists_mem_of_ne_nil R crew.nonempty
    by_cases e : r0 = j
    · exact ⟨ldr C v, crew.leader, fun e2 => crew.ne_leader hr0 (e.trans e2.symm)⟩
    · exact ⟨r0, List.mem_append_left _ hr0, e⟩
  exact C05.commit_phase cms C.height v hash ppm b js (C.cfg j) hwf.fit crew.quorum hb hh
    { n := net.node j, outs := net.outs j, spi := [] } hholds.cfg hg hholds.live hR
    (Or.inr ⟨_, (hmem _).mpr ⟨k, hk, hkj, rfl⟩, hauth k hk, k, rfl⟩)

include hwf crew in
/-- **One good view decides.**  From any reachable state of the network in which a correct leader's
proposal of view `v` has been accepted by correct members `R` that together with the leader hold
quorum weight (`Side1`, `Pre1`: the crew is started, in view `v`, holds the proposal with its block and keeps
its term context; the followers have logged and sent their PREPAREs and are where acceptance leaves a node:
COMMIT out, or prepared, or a PREPARE of `R` still missing), the execution can be continued by
deliveries of messages these members really sent — first their PREPAREs, then their COMMITs — to a
reachable state in which every one of them has invoked its commit callback (`onCommit`). Whatever was
delivered before, whatever the Byzantine members did, whatever else is logged. -/
theorem good_view_decides {net : Net} (hr : Reach C net) (hside : Side1 C v hash R net)
    (hpre : ∀ j ∈ R ++ [ldr C v], Pre1 C v hash b R j (net.node j) (net.outs j)) :
    ∃ net', Reach C net' ∧ OutsLe net net'
      ∧ ∀ j ∈ R ++ [ldr C v], ∃ blk cs, Out.commit blk cs ∈ net'.outs j := by
  obtain ⟨n1, hr1, hpost1, _, hst1, hle1, _⟩ := phase hwf (fun _ _ => True) (Post1 C v hash b) (R ++ [ldr C v])
    crew.nodup' net hr
    (fun j hj => ⟨crew.good j hj, hside.1 j hj, prepare_can hwf v hash b R crew hr hside (hpre j hj)⟩)
  obtain ⟨n2, hr2, hpost2, _, _, hle2, _⟩ := phase hwf (fun _ _ => True) (fun _ n _ => n.committed.isSome = true)
    (R ++ [ldr C v]) crew.nodup' n1 hr1
    (fun j hj => ⟨crew.good j hj, by rw [hst1]; exact hside.1 j hj,
      commit_can hwf v hash b R crew hr1 (fun k hk => (hpost1 k hk).sent.2) (hpost1 j hj)⟩)
  exact ⟨n2, hr2, hle1.trans hle2, fun j hj => C13Net.net_committed_has_callback hr2 j (hpost2 j hj)⟩

end phases


/-! ## the acceptance phase: from the leader's proposal to `Pre1` -/

/-- a prepared member holds the proposal of that view (`reach_sent`) -/
theorem not_prepared_of_no_proposal {net : Net} (hr : Reach C net) {j v : Nat}
    (hnone : (net.node j).store.getPP C.height v = none) : (net.node j).prepared ≠ some v := by
  intro hp
  obtain ⟨ppm, hg, _⟩ := (reach_sent hr j).prepared v hp
  rw [reach_cfg hr j] at hg
  cases hnone.symm.trans hg

theorem pre1_leader {v : Nat} {b : Block} {R : List Nat} (crew : Crew C v R) {hash : Nat} {n : Node} {outs : List Out}
    (hholds : Holds C v hash b (ldr C v) n) (hview : n.view = v) : Pre1 C v hash b R (ldr C v) n outs :=
  ⟨crew.leader, hholds, hview, fun h => absurd rfl h, fun h => absurd rfl h⟩

/-- `hacc` is the conclusion of `C05.newview_accepted_state` and of `C05.preprepare_accepted_state` -/
theorem pre1_of_accepted {v : Nat} {b : Block} {R : List Nat} {j : Nat} (hjR : j ∈ R) {hash : Nat} {ppm : PPMsg}
    {c : Cfg} (hc : c = C.cfg j) {w' : Term.W} (outs : List Out) (hb : ppm.block = some b) (hh : ppm.c.header.hash = hash)
    (hs : ppm.c.sender.id = ldr C v) (hlive : C05.Live w'.n.reg C.height)
    (hacc : w'.n.cfg = c ∧ w'.n.view = v ∧ w'.n.store.getPP C.height v = some ppm
      ∧ (C.height, v, hash, c.me) ∈ w'.n.store.prepares.map C11.pkey
      ∧ Out.send (others c) (.prepare (ownPrepare c C.height v hash)) ∈ w'.outs
      ∧ (C05.CommitSent c C.height v hash w'
          ∨ (w'.n.prepared ≠ some v ∧ ∃ id ∈ R, (C.height, v, hash, id) ∉ w'.n.store.prepares.map C11.pkey))) :
    Pre1 C v hash b R j w'.n (outs ++ w'.outs)
      ∧ Out.send (others (C.cfg j)) (.prepare (ownPrepare (C.cfg j) C.height v hash)) ∈ outs ++ w'.outs := by
  subst hc
  obtain ⟨s1, s2, s3, s4, s5, s6⟩ := hacc
  refine ⟨⟨List.mem_append_left _ hjR, ⟨s1, ⟨ppm, s3, hb, hh, hs⟩, hlive⟩, s2, fun _ => s4, fun _ => ?_⟩, List.mem_append_right _ s5⟩
  rcases s6 with hcs | ⟨_, hmiss⟩
  · exact Or.inl ⟨hcs.1, _, List.mem_append_right _ hcs.2⟩
  · exact Or.inr (Or.inr hmiss)

/-- **From a proposal of the leader to a decision**, whatever message `m` carries the proposal (the common
part of `good_view_from_newview` and `good_view_from_preprepare`): the leader holds it, and every follower
that is delivered `m` (with the SPI answers `spi`) accepts it. -/
theorem good_view_from_proposal (hwf : WF C) {v : Nat} {b : Block} {R : List Nat} (crew : Crew C v R) {net : Net} (hr : Reach C net)
    (m : Message) (hash : Nat) (spi : Nat → List Spi)
    (hstarted : ∀ k ∈ R ++ [ldr C v], net.started k = true) (hsent : ∃ rs, Out.send rs m ∈ net.outs (ldr C v))
    (hgate : msgInstT m = C.inst ∧ msgHeightT m = C.height ∧ msgSenderId m = ldr C v ∧ noEmptyBlock m)
    (hleader : Pre1 C v hash b R (ldr C v) (net.node (ldr C v)) (net.outs (ldr C v)))
    (hfol : ∀ j ∈ R, Pre1 C v hash b R j (step (net.node j) (.deliver m) (spi j)).1 (net.outs j ++ (step (net.node j) (.deliver m) (spi j)).2)
      ∧ Out.send (others (C.cfg j)) (.prepare (ownPrepare (C.cfg j) C.height v hash))
          ∈ net.outs j ++ (step (net.node j) (.deliver m) (spi j)).2) :
    ∃ net', Reach C net' ∧ OutsLe net net'
      ∧ ∀ j ∈ R ++ [ldr C v], ∃ blk cs, Out.commit blk cs ∈ net'.outs j := by
  obtain ⟨hhL, hmL⟩ := crew.good (ldr C v) crew.leader
  obtain ⟨rs, hs⟩ := hsent
  obtain ⟨ginst, gheight, gsender, gblock⟩ := hgate
  obtain ⟨n0, hr0, hpost0, hsame0, hst0, hle0, _⟩ := phase hwf (fun _ _ => True)
    (fun j n o => Pre1 C v hash b R j n o ∧ Out.send (others (C.cfg j)) (.prepare (ownPrepare (C.cfg j) C.height v hash)) ∈ o)
    R crew.nodup net hr
    (fun j hj => ⟨crew.follower hj, hstarted j (List.mem_append_left _ hj), _, _,
      Can.one _ (.deliver m) (spi j) (fun _ h => by cases h)
        ⟨ginst, gheight, by rw [gsender]; exact fun e => crew.ne_leader hj e.symm, gblock⟩
        (C01Net.sent_admissible hwf hr hhL hmL hs) trivial, hfol j hj⟩)
  obtain ⟨n2, hr2, hle2, hc⟩ := good_view_decides hwf v hash b R crew hr0
    ⟨fun k hk => by rw [hst0]; exact hstarted k hk, fun k hk => (hpost0 k hk).2⟩ (by
      intro j hj
      rcases List.mem_append.mp hj with hj | hj
      · exact (hpost0 j hj).1
      · rw [List.mem_singleton.mp hj, (hsame0 _ crew.notLeader).1, (hsame0 _ crew.notLeader).2]
        exact hleader)
  exact ⟨n2, hr2, hle0.trans hle2, hc⟩

/-- what the acceptance phase asks of the net: the crew is started, the leader's NEW_VIEW is out -/
def Side0 (C : NetCfg) (v : Nat) (R : List Nat) (nv : NVMsg) (net : Net) : Prop :=
  (∀ k ∈ R ++ [ldr C v], net.started k = true) ∧ ∃ rs, Out.send rs (.newView nv) ∈ net.outs (ldr C v)

/-- the fields of the NEW_VIEW the argument reads; every NEW_VIEW a correct leader of view `v` has sent has them (`Sent.nvShape`) -/
structure NVShape (C : NetCfg) (v : Nat) (b : Block) (nv : NVMsg) : Prop where
  inst : nv.header.inst = C.inst
  height : nv.header.height = C.height
  view : nv.header.view = v
  block : nv.block = some b
  sender : nv.sender.id = ldr C v
  ppSender : nv.pp.sender = nv.sender
  ppType : nv.pp.header.mtype = tPP

section accept
variable (hwf : WF C) (v : Nat) (b : Block) (R : List Nat) (crew : Crew C v R) (nv : NVMsg) (spi : Nat → List Spi)
  (hshape : NVShape C v b nv)

include hwf crew hshape in
/-- **From the leader's NEW_VIEW to a decision.**  In any reachable state (schedule so far obeying A2, the
consumer contract: `ValidateBlockProposal` approves only a block that commits to the proposed hash)
in which the correct leader of view `v` has sent its NEW_VIEW, is still in view `v` and keeps its term
context, and correct followers `R` — together with the leader of quorum weight — are started, not above `v`,
hold no proposal for `v`, have consumers that approve the block where they are asked (`spi j` is the
follower's answer to `ValidateBlockProposal`, called when no vote of the NEW_VIEW carries a prepared proof:
`latestVote == nil`), and
keep their term context while they handle the NEW_VIEW: delivering the NEW_VIEW to each of them, then the
PREPAREs, then the COMMITs — all of them messages the crew really sent — leads to a reachable state in
which every crew member has invoked its commit callback. -/
theorem good_view_from_newview {net : Net} (hr : Reach C net) (hA2 : TraceA2 net.trace)
    (hside : Side0 C v R nv net)
    (hfollowers : ∀ j ∈ R, (net.node j).store.getPP C.height v = none ∧ ¬ (net.node j).view > v
      ∧ ((latestVote nv.header.votes).isNone = true →
          (askValidate { n := net.node j, spi := spi j } nv.header.height nv.header.view nv.block nv.pp.header.hash).2 = true)
      ∧ C05.Live (handleNewView { n := net.node j, spi := spi j } nv).n.reg C.height)
    (hlview : (net.node (ldr C v)).view = v) (hllive : C05.Live (net.node (ldr C v)).reg C.height) :
    ∃ net', Reach C net' ∧ OutsLe net net'
      ∧ ∀ j ∈ R ++ [ldr C v], ∃ blk cs, Out.commit blk cs ∈ net'.outs j := by
  obtain ⟨hhL, hmL⟩ := crew.good (ldr C v) crew.leader
  obtain ⟨rs, hsent⟩ := hside.2
  have hcfgL := reach_cfg hr (ldr C v)
  -- the leader holds the proposal it sent (`reach_sent`)
  have hst := (reach_sent hr (ldr C v)).newViews rs nv hsent
  rw [hcfgL, hshape.view] at hst
  have hppL : nv.pp.sender.id = ldr C v := by rw [hshape.ppSender, hshape.sender]
  refine good_view_from_proposal hwf crew hr (.newView nv) nv.pp.header.hash spi hside.1 hside.2
    ⟨hshape.inst, hshape.height, hshape.sender, trivial⟩
    (pre1_leader crew ⟨hcfgL, ⟨⟨nv.pp, nv.block⟩, hst, hshape.block, rfl, hppL⟩, hllive⟩ hlview) ?_
  intro j hj
  obtain ⟨hnone, hnv, hfresh, hlive⟩ := hfollowers j hj
  have hgood := crew.follower hj
  have hcfg := reach_cfg hr j
  have hcert := C11Net.net_newview_is_valid_certificate hwf hr hA2 hhL hmL hgood.1 hgood.2 rs nv hsent (by rw [hshape.view]; exact hnv)
  have g := (nvGuards_iff _ _).mpr hcert
  have hauth : C08.PreprepareAuthentic (net.node j) ⟨nv.pp, nv.block⟩ :=
    g.ppAuthentic hshape.ppType hshape.ppSender (by rw [g.ppHeight, g.ppView, hshape.height, hshape.view]; exact hnone)
  have hacc := C05.newview_accepted_state { n := net.node j, spi := spi j } nv b R (by rw [hcfg]; exact hwf.fit) hcert hauth hfresh
    hshape.block (by rw [hshape.view]; exact not_prepared_of_no_proposal hr hnone)
    (by rw [hppL, hcfg]; exact crew.quorum)
  simp only [hshape.view, hshape.height] at hacc
  exact pre1_of_accepted hj hcfg (net.outs j) hshape.block rfl hppL hlive hacc

end accept

/-! ## the acceptance phase for a stand-alone PREPREPARE (view 0, the normal case) -/

/-- a follower before it accepts the leader's stand-alone PREPREPARE (`good_view_from_preprepare`) -/
def Pre0pp (C : NetCfg) (v : Nat) (R : List Nat) (ppm : PPMsg) (spi : Nat → List Spi) (j : Nat) (n : Node) (_ : List Out) : Prop :=
  j ∈ R ∧ n.cfg = C.cfg j ∧ n.view = v ∧ C08.PreprepareAuthentic n ppm ∧ lockConflict n ppm = false
  ∧ (askValidate { n := n, spi := spi j } ppm.c.header.height ppm.c.header.view ppm.block ppm.c.header.hash).2 = true
  ∧ C05.Live (handlePrePrepare { n := n, spi := spi j } ppm).n.reg C.height

/-- `Side0` for a stand-alone PREPREPARE -/
def Side0pp (C : NetCfg) (v : Nat) (R : List Nat) (ppm : PPMsg) (net : Net) : Prop :=
  (∀ k ∈ R ++ [ldr C v], net.started k = true) ∧ ∃ rs, Out.send rs (.preprepare ppm) ∈ net.outs (ldr C v)

structure PPShape (C : NetCfg) (v : Nat) (b : Block) (ppm : PPMsg) : Prop where
  inst : ppm.c.header.inst = C.inst
  height : ppm.c.header.height = C.height
  view : ppm.c.header.view = v
  block : ppm.block = some b
  sender : ppm.c.sender.id = ldr C v

section acceptpp
variable (hwf : WF C) (v : Nat) (b : Block) (R : List Nat) (crew : Crew C v R) (ppm : PPMsg) (spi : Nat → List Spi)
  (hshape : PPShape C v b ppm)

include hwf crew hshape in
/-- **From the leader's PREPREPARE to a decision** (the normal case, view 0: `startTerm` is the one place where
a correct leader sends a stand-alone PREPREPARE; the statement does not depend on `v`).  The leader is as in
`good_view_from_newview`; `Pre0pp`: each follower is in view `v`, the PREPREPARE passes its checks
(`C08.PreprepareAuthentic`: in particular it holds no proposal for `v`), it is not locked on another block, its
consumer approves (`spi j`), and it keeps its term context while it handles the PREPREPARE. -/
theorem good_view_from_preprepare {net : Net} (hr : Reach C net) (hside : Side0pp C v R ppm net)
    (hfollowers : ∀ j ∈ R, Pre0pp C v R ppm spi j (net.node j) (net.outs j))
    (hlview : (net.node (ldr C v)).view = v) (hllive : C05.Live (net.node (ldr C v)).reg C.height) :
    ∃ net', Reach C net' ∧ OutsLe net net'
      ∧ ∀ j ∈ R ++ [ldr C v], ∃ blk cs, Out.commit blk cs ∈ net'.outs j := by
  obtain ⟨hhL, hmL⟩ := crew.good (ldr C v) crew.leader
  obtain ⟨rs, hsent⟩ := hside.2
  have hcfgL := reach_cfg hr (ldr C v)
  have hst := (reach_sent hr (ldr C v)).preprepares rs ppm hsent
  rw [hcfgL, hshape.view] at hst
  refine good_view_from_proposal hwf crew hr (.preprepare ppm) ppm.c.header.hash spi hside.1 hside.2
    ⟨hshape.inst, hshape.height, hshape.sender, trivial⟩
    (pre1_leader crew ⟨hcfgL, ⟨ppm, hst, hshape.block, rfl, hshape.sender⟩, hllive⟩ hlview) ?_
  intro j hj
  obtain ⟨_, hcfg, hview, hauth, hlock, hok, hlive⟩ := hfollowers j hj
  have hnone : (net.node j).store.getPP C.height v = none := by
    have := hauth.free; rw [hshape.height, hshape.view] at this; exact this
  have hacc := C05.preprepare_accepted_state { n := net.node j, spi := spi j } ppm b R (by rw [hcfg]; exact hwf.fit) hauth hlock hok
    (by rw [hshape.view]; exact hview) hshape.block
    (by rw [hshape.view]; exact not_prepared_of_no_proposal hr hnone)
    (by rw [hshape.sender, hcfg]; exact crew.quorum)
  simp only [hshape.view, hshape.height] at hacc
  exact pre1_of_accepted hj hcfg (net.outs j) hshape.block rfl hshape.sender hlive hacc

end acceptpp

/-! ## non-vacuity

The committee of `C01Net` (members 1–4, unit weights, member 4 Byzantine).  After the five steps in
which members 1, 2, 3 start and the leader's proposal reaches members 2 and 3, the crew R = [2, 3]
with leader 1 meets every hypothesis of `good_view_decides`; so there is an execution in which all
three commit. -/

open LeanHelix.C01Net (exC exWF exPP exBlock)

theorem decided_listed {net : Net} {S : List Nat} (l : List Nat) (hl : ∀ j ∈ l, j ∈ S)
    (h : ∃ net', Reach C net' ∧ OutsLe net net' ∧ ∀ j ∈ S, ∃ blk cs, Out.commit blk cs ∈ net'.outs j) :
    ∃ net, Reach C net ∧ ∀ j ∈ l, ∃ blk cs, Out.commit blk cs ∈ net.outs j :=
  let ⟨net', hr', _, hc⟩ := h; ⟨net', hr', fun j hj => hc j (hl j hj)⟩

/-- the three starts and the two deliveries of the proposal -/
def exSched5 : List SStep := C01Net.exSched.take 5

theorem exOk5 : simOk exC (SimState.init exC) exSched5 = true := by decide

theorem exCrew : Crew exC 0 [2, 3] := ⟨by decide, by decide, by decide, by decide, by decide⟩

theorem exCrew1 : Crew exC 1 [1, 3] := ⟨by decide, by decide, by decide, by decide, by decide⟩

theorem ex_good_view : ∃ net, Reach exC net ∧ ∀ j ∈ [2, 3, 1], ∃ blk cs, Out.commit blk cs ∈ net.outs j := by
  obtain ⟨net, hr, ⟨hn, hs, ho⟩, _⟩ := reach_of_sched exWF exSched5 exOk5
  have hl : ldr exC 0 = 1 := by decide
  have hside : Side1 exC 0 99 [2, 3] net := by
    refine ⟨by rw [hs]; decide, ?_⟩
    · intro k hk
      have : k = 2 ∨ k = 3 := by simpa using hk
      rw [ho]
      rcases this with rfl | rfl <;> exact C11Net.mem_sendsOf (by decide)
  have hpre : ∀ j ∈ [2, 3] ++ [ldr exC 0], Pre1 exC 0 99 exBlock [2, 3] j (net.node j) (net.outs j) := by
    intro j hj
    have hj' : j = 2 ∨ j = 3 ∨ j = 1 := by rw [hl] at hj; simpa using hj
    rw [hn, ho]
    rcases hj' with rfl | rfl | rfl
    · refine ⟨hj, ⟨rfl, ⟨exPP, by decide, rfl, rfl, by decide⟩, ⟨by decide, by decide⟩⟩, by decide, fun _ => by decide,
        fun _ => Or.inr (Or.inr ⟨3, by decide, by decide⟩)⟩
    · refine ⟨hj, ⟨rfl, ⟨exPP, by decide, rfl, rfl, by decide⟩, ⟨by decide, by decide⟩⟩, by decide, fun _ => by decide,
        fun _ => Or.inr (Or.inr ⟨2, by decide, by decide⟩)⟩
    · refine ⟨hj, ⟨rfl, ⟨exPP, by decide, rfl, rfl, by decide⟩, ⟨by decide, by decide⟩⟩, by decide, fun h => absurd hl.symm h, fun h => absurd hl.symm h⟩
  exact decided_listed _ (by decide) (good_view_decides exWF 0 99 exBlock [2, 3] exCrew hr hside hpre)

/-- non-vacuity of `good_view_from_newview`: in the 8-step execution `C11Net.exSchedVC` (three election timeouts,
leader 2 of view 1 elected, NEW_VIEW sent) the crew {2; 1, 3} meets every hypothesis, with approving
consumers: all three decide in view 1 -/
theorem ex_good_view_after_view_change :
    ∃ net, Reach exC net ∧ ∀ j ∈ [1, 3, 2], ∃ blk cs, Out.commit blk cs ∈ net.outs j := by
  obtain ⟨net, hr, ⟨hn, hs, ho⟩, ht⟩ := reach_of_sched exWF C11Net.exSchedVC C11Net.exOkVC
  have hA2 : TraceA2 net.trace := ht ▸ C11Net.exVC_traceA2
  have hl : ldr exC 1 = 2 := by decide
  have hshape : NVShape exC 1 C11Net.exBlock2 C11Net.exNV := ⟨rfl, rfl, rfl, rfl, by decide, rfl, rfl⟩
  have hside : Side0 exC 1 [1, 3] C11Net.exNV net := by
    refine ⟨by rw [hs]; decide, [1, 3, 4], ?_⟩
    · rw [hl, ho]; exact C11Net.mem_sendsOf (by decide)
  refine decided_listed _ (by decide) (good_view_from_newview exWF 1 C11Net.exBlock2 [1, 3] exCrew1 C11Net.exNV (fun _ => [.verdict true none]) hshape hr hA2 hside
    (by
      intro j hj
      have : j = 1 ∨ j = 3 := by simpa using hj
      rw [hn]
      rcases this with rfl | rfl <;> exact ⟨by decide, by decide, fun _ => by decide, ⟨by decide, by decide⟩⟩)
    (by rw [hl, hn]; decide) (by rw [hl, hn]; exact ⟨by decide, by decide⟩))

/-- non-vacuity of `good_view_from_preprepare`: members 1, 2, 3 have started, leader 1 has proposed; everything
else — the deliveries of the PREPREPARE, the PREPAREs and the COMMITs — is the schedule the theorem
constructs: all three decide in view 0 -/
theorem ex_good_view_normal_case :
    ∃ net, Reach exC net ∧ ∀ j ∈ [2, 3, 1], ∃ blk cs, Out.commit blk cs ∈ net.outs j := by
  obtain ⟨net, hr, ⟨hn, hs, ho⟩, _⟩ := reach_of_sched exWF (exSched5.take 3) (by decide)
  have hl : ldr exC 0 = 1 := by decide
  have hshape : PPShape exC 0 exBlock exPP := ⟨rfl, rfl, rfl, rfl, by decide⟩
  have hside : Side0pp exC 0 [2, 3] exPP net := by
    refine ⟨by rw [hs]; decide, [2, 3, 4], ?_⟩
    · rw [hl, ho]; exact C11Net.mem_sendsOf (by decide)
  refine decided_listed _ (by decide) (good_view_from_preprepare exWF 0 exBlock [2, 3] exCrew exPP (fun _ => [.verdict true none]) hshape hr hside
    (by
      intro j hj
      have : j = 2 ∨ j = 3 := by simpa using hj
      rw [hn]
      rcases this with rfl | rfl <;>
        exact ⟨hj, rfl, by decide, ⟨rfl, rfl, by decide, by decide⟩, by decide, by decide, ⟨by decide, by decide⟩⟩)
    (by rw [hl, hn]; decide) (by rw [hl, hn]; exact ⟨by decide, by decide⟩))

/-! `good_view_from_preprepare` for a crew with a single follower: weights (3, 3, 1, 1), `Q = 6`; the leader
(member 1) and member 2 alone hold quorum weight.  Member 2 is prepared the moment it accepts the proposal
(the branch "COMMIT out" of `Pre1`), there is no PREPARE to deliver to it, and the two COMMITs finish the
round for both. -/

def exCw : NetCfg := ⟨7, 5, [⟨1, 3⟩, ⟨2, 3⟩, ⟨3, 1⟩, ⟨4, 1⟩], fun i => i != 4⟩

theorem exWFw : WF exCw := ⟨⟨by decide, by decide⟩, by decide⟩

theorem exCrewW : Crew exCw 0 [2] := ⟨by decide, by decide, by decide, by decide, by decide⟩

theorem ex_good_view_single_follower :
    ∃ net, Reach exCw net ∧ ∀ j ∈ [2, 1], ∃ blk cs, Out.commit blk cs ∈ net.outs j := by
  obtain ⟨net, hr, ⟨hn, hs, ho⟩, _⟩ := reach_of_sched exWFw (exSched5.take 2) (by decide)
  have hl : ldr exCw 0 = 1 := by decide
  have hshape : PPShape exCw 0 exBlock exPP := ⟨rfl, rfl, rfl, rfl, by decide⟩
  have hside : Side0pp exCw 0 [2] exPP net := by
    refine ⟨by rw [hs]; decide, [2, 3, 4], ?_⟩
    · rw [hl, ho]; exact C11Net.mem_sendsOf (by decide)
  refine decided_listed _ (by decide) (good_view_from_preprepare exWFw 0 exBlock [2] exCrewW exPP (fun _ => [.verdict true none]) hshape hr hside
    (by
      intro j hj
      have : j = 2 := by simpa using hj
      rw [hn]
      subst this
      exact ⟨hj, rfl, by decide, ⟨rfl, rfl, by decide, by decide⟩, by decide, by decide, ⟨by decide, by decide⟩⟩)
    (by rw [hl, hn]; decide) (by rw [hl, hn]; exact ⟨by decide, by decide⟩))

end LeanHelix.C05Net
