import LeanHelix.Props.C01Net
/-!
# C09 at the network level: every vote a correct member sends carries its lock

`Props/C09.lean` proves what one call of the election handler puts into the VIEW_CHANGE; the local
rule "a vote cast after preparing in view v carries a proof of a view ≥ v" is part of `Spec.Justified`
and so holds along every execution of the network model (`reach_inv`).  Read off the reachable state:

* `net_vote_carries_lock` — if a correct member is prepared in view `pv` (its `prepared` field), then
  every VIEW_CHANGE it has sent for a view above `pv` carries a prepared proof of a view ≥ `pv`
  (`pf` is the (view, hash) pair of the proof, `pfOf`);
* `net_prepared_has_certificate` — and the (view, hash) it is prepared on is certified: a quorum whose
  correct members accepted exactly that hash in that view.
-/
namespace LeanHelix.C09Net
open LeanHelix LeanHelix.Msg LeanHelix.Term LeanHelix.Spec LeanHelix.Net

variable {C : NetCfg}

theorem net_vote_carries_lock (hwf : WF C) {net : Net} (hr : Reach C net) {i : Nat} (hh : C.honest i = true)
    (hm : ∃ m ∈ C.ms, m.id = i) {pv : Nat} (hprep : (net.node i).prepared = some pv)
    {o : Out} (ho : o ∈ net.outs i) {v' : Nat} {pf : Option (Nat × Nat)} (s : stmtOf o = some (.vote v' pf))
    (hlt : pv < v') : ∃ pv' hp, pf = some (pv', hp) ∧ pv ≤ pv' := by
  have hinv := reach_inv hwf hr
  have hni := hinv.node hh hm
  obtain ⟨T, hcore, _⟩ := hni.core
  obtain ⟨_, ⟨ppm, _, hcom⟩, _⟩ := hcore.ginv.prep pv hprep
  exact Spec.lock_carried (setting C hwf) hinv.valid (mem_H_of_T hcore.sees hcom) (hni.stmt ho s) hlt

theorem net_prepared_has_certificate (hwf : WF C) {net : Net} (hr : Reach C net) {i : Nat} (hh : C.honest i = true)
    (hm : ∃ m ∈ C.ms, m.id = i) {pv : Nat} (hprep : (net.node i).prepared = some pv) :
    ∃ ppm, (net.node i).store.getPP (net.node i).cfg.height pv = some ppm
      ∧ validCert (setting C hwf) net.H pv ppm.c.header.hash := by
  have hinv := reach_inv hwf hr
  obtain ⟨T, hcore, _⟩ := (hinv.node hh hm).core
  obtain ⟨_, ⟨ppm, hg, hcom⟩, _⟩ := hcore.ginv.prep pv hprep
  exact ⟨ppm, hg, Spec.com_cert (setting C hwf) hinv.valid (mem_H_of_T hcore.sees hcom)⟩

end LeanHelix.C09Net
