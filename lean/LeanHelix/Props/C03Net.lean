import LeanHelix.Props.C01Net
/-!
# C03 at the network level: what a correct node commits, every correct node's strict validation accepts

`Props/C03.lean` proves, about one node, that the block proof generated at a commit passes the model
of strict `ValidateBlockConsensus` *given* the log invariant `CommitsOK` and that logged COMMITs are of
this instance.  In the network model both are invariants of every reachable state (`Net.Univ`), and the
hash half of the consumer contract A2 is propagated from the approvals (`Net.BlocksOK`).  Hence, for
every execution of the network model under A2 and every commit callback of a correct member:

* `net_committed_proof_validates` — the block proof generated from the COMMITs handed to the callback
  is accepted, together with the committed block, by strict validation with this instance id and
  committee (the same for every correct member: the validator reads nothing else), provided the block
  carries this term's height (`hheight`: the other half of A2 — the consumer proposes / approves only
  blocks of the height asked for; the term model does not read a block's height field).

Not covered here: the aggregated random-seed signature (assumption A4 of `Props/C03.lean`: the
aggregate of verified shares verifies), which the term model does not compute.
-/
namespace LeanHelix.C03Net
open LeanHelix LeanHelix.Msg LeanHelix.Term LeanHelix.Spec LeanHelix.Net

variable {C : NetCfg}

theorem net_committed_proof_validates (hwf : WF C) {net : Net} (hr : Reach C net) (hA2 : TraceA2 net.trace)
    {i : Nat} (hi : C.honest i = true) (hmi : ∃ m ∈ C.ms, m.id = i)
    (blk : Block) (cs : List CMsg) (hcommit : Out.commit blk cs ∈ net.outs i) (hheight : blk.height = C.height) :
    ∃ p, BlockProof.generate cs true = some p ∧
      BlockProof.validate ⟨false, some blk, some p, C.inst, C.ms, false⟩ = .ok :=
  (reach_blocks hwf hr hA2 i hi hmi).2.cert hcommit hheight

/-- non-vacuity: in the 13-step execution of `C01Net`, member 2's commit callback got a certificate
that validates -/
example : ∃ net, Reach C01Net.exC net ∧ ∃ cs p, Out.commit C01Net.exBlock cs ∈ net.outs 2
    ∧ BlockProof.generate cs true = some p
    ∧ BlockProof.validate ⟨false, some C01Net.exBlock, some p, C01Net.exC.inst, C01Net.exC.ms, false⟩ = .ok := by
  obtain ⟨net', hr', ⟨_, _, ho⟩, ht'⟩ := reach_of_sched C01Net.exWF C01Net.exSched C01Net.exOk
  have hA2 : TraceA2 net'.trace := ht' ▸ C01Net.ex_traceA2
  have hc : Out.commit C01Net.exBlock [C01Net.exCm 2, C01Net.exCm 3, C01Net.exCm 1] ∈ net'.outs 2 := by
    rw [ho]; exact C01Net.mem_commitsOf (by decide)
  obtain ⟨p, hp, hv⟩ := net_committed_proof_validates C01Net.exWF hr' hA2 (i := 2) rfl ⟨⟨2, 1⟩, by decide, rfl⟩ _ _ hc rfl
  exact ⟨net', hr', _, p, hc, hp, hv⟩

end LeanHelix.C03Net
