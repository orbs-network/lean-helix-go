import LeanHelix.Props.C08Worker
import LeanHelix.Props.C03
import LeanHelix.Props.C04
import LeanHelix.Props.C11NewView
import LeanHelix.Props.C10Leader
import LeanHelix.Lemmas.TermViews
import LeanHelix.Lemmas.TermOwn
/-!
# All log invariants of the term hold in every reachable state of the worker

The Term-level theorems of C03, C04, C10 and C11 are stated for node states that satisfy log
invariants (`CommitsOK`, `PreparesOK`, `ProposalsOK`, `VCsOK`, `LVInv`, `LogClean`, …: collected in
`AllInv`) and for events that the worker's filter lets through.  Here they are shown to hold for **every term the worker ever
runs, in every state reachable by any sequence of worker events** (deliveries incl. the future
cache, elections, node syncs, commits and round starts nested inside deliveries, any SPI answers):
`reachable_term_invariants`.  The hypotheses those theorems name ("the node is a committee member",
"logged messages carry this instance id and height", "the log invariant holds") are thereby
discharged for executions of the whole worker.
-/
namespace LeanHelix.WorkerInvariants
open LeanHelix LeanHelix.Msg LeanHelix.Term LeanHelix.Worker

structure AllInv (t : Term.Node) : Prop where
  member : isMember t.cfg t.cfg.me = true
  commits : C03.CommitsOK t
  prepares : C11.PreparesOK t
  proposals : C04.ProposalsOK t
  votes : C11.VCsOK t
  bookkeeping : C10.LVInv t
  clean : Term.LogClean t
  ownNL : Term.OwnPreparesNL t
  views : Term.ViewsOK t

private theorem all_of_acts {e : Event} {a b : Term.W} (h : Acts e a b) (hc : EventClean a.n e) (hn : NotOwn a.n.cfg e)
    (ha : AllInv a.n) : AllInv b.n :=
  ⟨by rw [h.cfg]; exact ha.member,
   C03.commitsOK_evolves ha.member h.evolves ha.commits,
   C11.preparesOK_evolves ha.member h.evolves ha.prepares,
   C04.stored_proposals_are_from_the_leader h.evolves ha.proposals,
   C11.vcsOK_evolves h.evolves ha.votes,
   (C10.lv_acts h ha.bookkeeping).2,
   h.logClean hc ha.clean,
   ownPreparesNL_evolves (h.evolvesNL hn) ha.ownNL,
   h.views ha.views⟩

theorem AllInv.setReg {t : Term.Node} (h : AllInv t) (r : Contexts.Reg) : AllInv { t with reg := r } :=
  ⟨h.member, ⟨h.commits.auth, h.commits.keys⟩, ⟨h.prepares.auth, h.prepares.keys⟩, h.proposals,
   ⟨h.votes.auth, h.votes.keys⟩, h.bookkeeping, C08.logClean_reg t r h.clean, h.ownNL, ⟨h.views.pp, h.views.prep⟩⟩

theorem allInv_init (cfg : Cfg) (hmem : isMember cfg cfg.me = true) : AllInv { cfg := cfg } :=
  ⟨hmem, C03.commitsOK_init cfg, C11.preparesOK_init cfg, nofun, C11.vcsOK_init cfg, Nat.le_refl 0,
   logClean_init cfg, ownPreparesNL_init cfg, viewsOK_init cfg⟩

theorem allInv_termInv : C08.TermInv AllInv where
  reg := fun _ r h => h.setReg r
  handle := fun tw m h1 h2 h3 h => by
    refine all_of_acts (handle_acts tw m) ?_ ?_ h
    · rw [C08.msgInst_eq] at h1; rw [C08.msgHeight_eq] at h2; exact ⟨h1, h2⟩
    · cases m <;> first | exact h3 | trivial
  election := fun tw hh v h =>
    all_of_acts (election_acts tw hh v) trivial trivial h
  start := fun cfg r spi c hmem _ =>
    all_of_acts (startTerm_acts { n := { ({ cfg := cfg } : Term.Node) with reg := r }, spi := spi } c) trivial trivial
      ((allInv_init cfg hmem).setReg r)

/-- **In every reachable state of the worker, the installed term — whatever was delivered to it,
directly or through the future cache, and whatever rounds were started inside deliveries — satisfies
every log invariant** and is this node's. -/
theorem reachable_term_invariants (fuel : Nat) (me inst : Nat) (es : List (WEvent × List WSpi)) (t : Term.Node)
    (ht : (es.foldl (fun n x => (Worker.step fuel n x.1 x.2).1) ({ me := me, inst := inst } : WNode)).term = some t) :
    t.cfg.me = me ∧ t.cfg.inst = inst ∧ AllInv t := by
  obtain ⟨e1, e2, hi⟩ := run_inv (P := fun n => n.me = me ∧ n.inst = inst ∧ C08.WInv AllInv n)
    (fun n e spi h => ⟨(step_frame fuel n e spi).1.trans h.1, (step_frame fuel n e spi).2.1.trans h.2.1,
      C08.worker_step_inv allInv_termInv fuel n e spi h.2.2⟩) es _ ⟨rfl, rfl, C08.winv_init AllInv me inst⟩
  obtain ⟨t1, t2, _, t4⟩ := hi.term t ht
  exact ⟨by rw [t1]; exact e1, by rw [t2]; exact e2, t4⟩

/-- **C03 without the instance-id hypothesis**: for a term in a state that satisfies the reachable
invariants (`reachable_term_invariants`), the certificate handed to the commit callback passes
strict `ValidateBlockConsensus` — only the consumer contract for the block (`A2`) remains as a hypothesis
(`hW1`, `hW2` are passed on to `C03.committed_proof_validates`, which does not need them). -/
theorem reachable_committed_proof_validates (w : Term.W) (hall : AllInv w.n) (h v hash : Nat) (b : Block) (cs : List CMsg)
    (hin : Out.commit b cs ∈ (checkCommitted w h v hash).outs) (hnot : Out.commit b cs ∉ w.outs)
    (hW1 : 1 ≤ LeanHelix.W w.n.cfg.members) (hW2 : LeanHelix.W w.n.cfg.members < U64)
    (A2 : b.hash = hash ∧ b.height = h) :
    ∃ p, BlockProof.generate cs true = some p ∧
      BlockProof.validate ⟨false, some b, some p, w.n.cfg.inst, w.n.cfg.members, false⟩ = .ok :=
  C03.committed_proof_validates w h v hash b cs hall.commits hin hnot hW1 hW2
    (fun cm hcm => (hall.clean.commits cm hcm).1) A2

/-- **C11, closed for VIEW_CHANGE**: in a state that satisfies the reachable invariants, when the
election timer of the current view fires, the VIEW_CHANGE the node builds is valid at every correct
node with the same configuration — whatever PREPAREs, proposals and COMMITs Byzantine members and
outsiders made it accept before.  No hypothesis about the log remains. -/
theorem reachable_own_vote_valid (n peer : Term.Node) (hall : AllInv n) (hcfg : peer.cfg = n.cfg)
    (hnw : ¬ n.view > wrap64 (n.view + 1)) (hne : wrap64 (n.view + 1) ≠ n.view) :
    isViewChangeValid peer (C09.voteOnTimeout { n with view := wrap64 (n.view + 1) }).c = true := by
  have hgt : n.view < wrap64 (n.view + 1) := by omega
  refine C11.own_vote_is_valid_for_peers { n with view := wrap64 (n.view + 1) } peer hcfg hall.member
    ⟨hall.prepares.auth, hall.prepares.keys⟩ hall.proposals ?_ (fun ppm hp => (hall.clean.pps ppm hp).1)
    (fun pm hp => (hall.clean.prepares pm hp).1)
  intro pv hpv
  have hle : pv ≤ n.view := hall.views.prep pv hpv
  refine ⟨by show pv < wrap64 (n.view + 1); omega, ?_⟩
  intro pm hpm hvw hsig
  have := hall.ownNL pm hpm hsig
  rw [hvw] at this
  exact this

end LeanHelix.WorkerInvariants
