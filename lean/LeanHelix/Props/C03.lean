import LeanHelix.Model.Worker
import LeanHelix.Model.BlockProof
import LeanHelix.Lemmas.TermActs
import LeanHelix.Props.C02
import LeanHelix.Lemmas.TermValidators
/-!
# C03 — Every committed (block, proof) pair passes strict ValidateBlockConsensus

Over the Term model, in three steps.  The invariant `CommitsOK` — every stored COMMIT is COMMIT-typed, from a
committee member, with a verifying signature and a valid random-seed share, and no two stored COMMITs share
(height, view, hash, sender); this is where outsiders' and re-wrapped PREPARE signatures are kept out, findings
D8 / D9 — is preserved by every event (`commits_ok_step`).  The commit callback is given exactly the stored COMMITs
of (h, v, hash) (`commit_callback_payload`).  The block proof generated from them passes the model of strict
`ValidateBlockConsensus` (C02) of any node with the same instance id and committee (`committed_proof_validates`).

What the last step takes from outside the Term model (consumer SPI contract / filter), as hypotheses, not axioms:
* `hinst` — stored COMMITs are for this instance (the worker's filter only forwards such messages:
  `C08.filtered_messages_change_nothing`, C17);
* `A2` — the committed block satisfies the commitment of the hash it was accepted under and has the height it was
  proposed for (`ValidateBlockProposal` / `RequestNewBlockProposal` contract);
* A4 — the aggregate of verified random-seed shares verifies: the argument `true` of `BlockProof.generate` (the
  model does not compute the aggregate).
-/
namespace LeanHelix.C03
open LeanHelix LeanHelix.Msg LeanHelix.Term

structure CommitsOK (n : Node) : Prop where
  auth : ∀ cm ∈ n.store.commits, cm.shareOk = true ∧ cm.header.mtype = tC ∧ isMember n.cfg cm.sender.id = true ∧ cm.sender.ok = true
  keys : (n.store.commits.map ckey).Nodup

theorem commitsOK_init (c : Cfg) : CommitsOK { cfg := c } := ⟨(by intro cm h; cases h), List.nodup_nil⟩

theorem commitsOK_evolves {a b : Node} (hme : isMember a.cfg a.cfg.me = true) (h : Evolves J a b)
    (ha : CommitsOK a) : CommitsOK b where
  auth := fun cm hcm =>
    h.commits (A := fun c cm => isMember c c.me = true →
        cm.shareOk = true ∧ cm.header.mtype = tC ∧ isMember c cm.sender.id = true ∧ cm.sender.ok = true)
      -- a received COMMIT passed these checks; the own COMMIT has them by construction
      (fun _ _ hj hm => hj.elim id (fun ho => by rw [ho.1]; exact ⟨rfl, rfl, hm, rfl⟩))
      (fun cm hcm _ => ha.auth cm hcm) cm hcm (by rw [h.cfg]; exact hme)
  keys := h.commits_keys ha.keys

/-- **1. `CommitsOK` is preserved by every event, whatever the message and the SPI answers**, at a node that is a
member of its own committee (`hme`: its own COMMIT is logged too). -/
theorem commits_ok_step (n : Node) (e : Event) (spi : List Spi) (hme : isMember n.cfg n.cfg.me = true)
    (h : CommitsOK n) : CommitsOK (step n e spi).1 :=
  commitsOK_evolves hme (step_ev n e spi) h

/-- **2. the commit callback `checkCommitted` makes is given exactly the stored COMMITs of (h, v, hash), whose
senders reach the quorum, and the block of the stored proposal of (h, v), whose signed hash is `hash`.** -/
theorem commit_callback_payload (w : Term.W) (h v hash : Nat) (b : Block) (cs : List CMsg)
    (hin : Out.commit b cs ∈ (checkCommitted w h v hash).outs) (hnot : Out.commit b cs ∉ w.outs) :
    cs = w.n.store.getCommits h v hash
    ∧ isQuorum w.n.cfg (cs.map (·.sender.id)) = true
    ∧ ∃ ppm, w.n.store.getPP h v = some ppm ∧ ppm.block = some b ∧ ppm.c.header.hash = hash := by
  rcases checkCommitted_cases w h v hash with ⟨_, e⟩ | ⟨b', ⟨_, hq, ppm, hget, hb, hh⟩, ⟨_, e⟩ | ⟨_, e⟩⟩ <;> rw [e] at hin
  · exact absurd hin hnot
  · exact absurd hin hnot
  · rcases mem_commitW hin with hin | hin | hin
    · exact absurd hin hnot
    · cases hin
    · cases hin
      exact ⟨rfl, hq, ppm, hget, hb, hh⟩

/-- step 3 from the log alone, without the callback (the form the network model uses, `Net/BlockBody.lean`) -/
theorem stored_quorum_validates (n : Node) (h v hash : Nat) (b : Block)
    (hok : CommitsOK n)
    (hq : isQuorum n.cfg ((n.store.getCommits h v hash).map (·.sender.id)) = true)
    (hinst : ∀ cm ∈ n.store.commits, cm.header.inst = n.cfg.inst)
    (A2 : b.hash = hash ∧ b.height = h) :
    ∃ p, BlockProof.generate (n.store.getCommits h v hash) true = some p ∧
      BlockProof.validate ⟨false, some b, some p, n.cfg.inst, n.cfg.members, false⟩ = .ok := by
  cases hcons : n.store.getCommits h v hash with
  | nil => exact absurd hcons (ne_nil_of_quorum hq)
  | cons c rest =>
    -- the first logged COMMIT gives the certificate its header
    obtain ⟨hc_in, hch, _, hchash⟩ := mem_getCommits.mp (show c ∈ n.store.getCommits h v hash by rw [hcons]; exact List.mem_cons_self ..)
    refine ⟨⟨⟨tC, c.header.inst, c.header.height, c.header.view, c.header.hash⟩, (c :: rest).map (·.sender), false, true⟩, rfl, ?_⟩
    rw [C02.validate_ok_iff_genuine]
    refine ⟨rfl, b, _, rfl, rfl, rfl, (hinst c hc_in), by rw [hch]; exact A2.2.symm, by rw [hchash]; exact A2.1, ?_, ?_, ?_, rfl, rfl⟩
    · intro s hs
      obtain ⟨cm, hcm, rfl⟩ := List.mem_map.mp hs
      have := hok.auth cm (mem_getCommits.mp (show cm ∈ n.store.getCommits h v hash by rw [hcons]; exact hcm)).1
      exact ⟨this.2.2.2, this.2.2.1⟩
    · rw [List.map_map, ← hcons]
      exact getCommits_ids_nodup n.store h v hash hok.keys
    · simp only [Bool.false_eq_true, if_false, List.map_map]
      rw [hcons] at hq
      exact hq

/-- **3. the certificate a correct node hands out is accepted by strict ValidateBlockConsensus**
of every node configured with the same instance id and committee (`hok`: invariant 1; `hinst`, `A2`, the seed
verdict `true`: the contracts named at the head of the file; `hW1`, `hW2` are not needed: signer and generator
compute the same wrapped sums). -/
theorem committed_proof_validates (w : Term.W) (h v hash : Nat) (b : Block) (cs : List CMsg)
    (hok : CommitsOK w.n)
    (hin : Out.commit b cs ∈ (checkCommitted w h v hash).outs) (hnot : Out.commit b cs ∉ w.outs)
    (hW1 : 1 ≤ LeanHelix.W w.n.cfg.members) (hW2 : LeanHelix.W w.n.cfg.members < U64)
    (hinst : ∀ cm ∈ w.n.store.commits, cm.header.inst = w.n.cfg.inst)
    (A2 : b.hash = hash ∧ b.height = h) :
    ∃ p, BlockProof.generate cs true = some p ∧
      BlockProof.validate ⟨false, some b, some p, w.n.cfg.inst, w.n.cfg.members, false⟩ = .ok := by
  obtain ⟨rfl, hq, _⟩ := commit_callback_payload w h v hash b cs hin hnot
  exact stored_quorum_validates w.n h v hash b hok hq hinst A2

end LeanHelix.C03
