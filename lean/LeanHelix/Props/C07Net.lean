import LeanHelix.Props.C01Net
/-!
# C07 at the network level: what a correct member acts upon in a view above 0

`Props/C07.lean` shows, per handler call, that a NEW_VIEW which is not a valid certificate is ignored and
that only a proposal can make a node send PREPARE.  Over every execution of the network model the same is a
fact about the ghost history (`reach_inv`; `net_acceptance_above_view0`): whenever a correct member accepted
hash `h` in a view `v > 0` (sent PREPARE, or proposed as leader), then at that moment

* either a NEW_VIEW certificate for (v, h) was visible — a quorum of votes for `v` whose correct voters
  really cast them, every proof among them a prepared certificate of an earlier view, and `h` the hash of
  a highest proof (or no vote carrying a proof) — `Spec.newViewJust`;
* or (the stand-alone PREPREPARE the code also follows in a view above 0: known finding D5; what it checks
  is `lockConflict`) the member's own latest prepared hash, if it has one, is `h`.
-/
namespace LeanHelix.C07Net
open LeanHelix LeanHelix.Msg LeanHelix.Term LeanHelix.Spec LeanHelix.Net

variable {C : NetCfg}

theorem net_acceptance_above_view0 (hwf : WF C) {net : Net} (hr : Reach C net) {i v h : Nat}
    (hacc : Ev.acc i v h ∈ net.H) (hv : 0 < v) :
    newViewJust (setting C hwf) net.H v h
    ∨ ∃ H0 : List Ev, (∀ x ∈ H0, x ∈ net.H) ∧
        ∀ v0 h0, Ev.com i v0 h0 ∈ H0 → v0 < v ∧ ((∀ v1 h1, Ev.com i v1 h1 ∈ H0 → v1 ≤ v0) → h0 = h) := by
  obtain ⟨H0, _, hj, hs⟩ := Spec.justified_of_mem (setting C hwf) (reach_inv hwf hr).valid hacc
  have hsub : ∀ x ∈ H0, x ∈ net.H := fun _ => mem_of_before hs
  rcases hj.2.2 hv with hnv | hlock
  · exact Or.inl (newViewJust_mono _ hsub hnv)
  · exact Or.inr ⟨H0, hsub, hlock⟩

end LeanHelix.C07Net
