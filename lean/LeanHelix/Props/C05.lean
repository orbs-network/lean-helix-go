import LeanHelix.Props.C11NewView
import LeanHelix.Props.C19
import LeanHelix.Props.C03
import LeanHelix.Props.C06
import LeanHelix.Props.C15Registry
import LeanHelix.Props.C13Commit
/-!
# C05 — Liveness after stabilisation: the pieces of the argument, one node at a time

Liveness of the whole network needs real time and fairness.  Proved here, each for every state / input:

* view synchronisation by doubling timeouts (`catch_up`): below saturation the timeouts of all earlier views
  together are shorter than the timeout of view `v`, so a member that is any number of views behind reaches view `v`
  by its own timeouts before a member that entered `v` at the same moment leaves it.  At and above saturation (views
  whose timeout is `MaxInt64` ns) this fails (`timeouts_saturate_partial`); they are outside the property's premise;
* quorum of PREPAREs ⇒ COMMIT is sent (`becomes_prepared`), quorum of COMMITs ⇒ the block is committed
  (`commits_when_quorum`);
* one node through a good view (`prepare_phase`, `commit_phase`; `good_view_prepares`, `good_view_commits` are the
  case in which a message of the quorum is still missing from the log): a node that holds the proposal of view `v`
  and is delivered PREPAREs, resp. COMMITs, of members that together reach quorum — in any order, among any other
  PREPAREs, resp. COMMITs — has sent its COMMIT, resp. has committed, afterwards.

That a correct leader's NEW_VIEW is adopted and a correct member's PREPARE / COMMIT is counted is C11
(`checkElected_newview_valid`, `valid_newview_is_adopted`).  The pieces are composed over the network model in
`Props/C05Net.lean` (`good_view_decides`) and `Props/C05Elect.lean` (`good_view_from_timeouts`).  Not proved: that a
fair, timely scheduler performs those deliveries before the election timers of the view fire.  That is checked on
real nodes by the `node` suite's stabilisation phase (a timely fair schedule with virtual timers `2^view`, after
random adversarial prefixes), with the monitors `no-commit-after-stabilisation` / `accepted-but-not-committed`.
-/
namespace LeanHelix.C05
open LeanHelix LeanHelix.Msg LeanHelix.Term LeanHelix.Timeout

/-! ## timers -/

def sumTimeouts (base : Int) : Nat → Int
  | 0 => 0
  | v + 1 => sumTimeouts base v + calcTimeout base v

theorem sumTimeouts_eq (base : Int) (v : Nat) (hb : 0 < base) (hfit : base * 2 ^ v ≤ maxInt64) :
    sumTimeouts base v = base * 2 ^ v - base := by
  induction v with
  | zero => simp [sumTimeouts]
  | succ v ih =>
    have hv : base * 2 ^ v ≤ maxInt64 :=
      Int.le_trans (Int.mul_le_mul_of_nonneg_left (C19.two_pow_mono (Nat.le_succ v)) (by omega)) hfit
    unfold sumTimeouts
    rw [ih hv, C19.timeout_exact_when_fits base v hb hv, Int.pow_succ, ← Int.mul_assoc]
    omega

/-- **catch-up**: all earlier timeouts together are shorter than the timeout of view `v` (`hfit`: below saturation) -/
theorem catch_up (base : Int) (v : Nat) (hb : 0 < base) (hfit : base * 2 ^ v ≤ maxInt64) :
    sumTimeouts base v < calcTimeout base v := by
  rw [sumTimeouts_eq base v hb hfit, C19.timeout_exact_when_fits base v hb hfit]
  omega

example : sumTimeouts 4000000000 10 < calcTimeout 4000000000 10 := catch_up 4000000000 10 (by decide) (by decide)

/-- at saturation the catch-up argument fails: the timeouts stop growing -/
theorem timeouts_saturate_partial : calcTimeout 4000000000 32 = calcTimeout 4000000000 33 := by decide

/-- every delay `D` that a Duration can express is eventually reached by the timeout (by the saturated one, at the latest) -/
theorem timeout_exceeds_delay (base D : Int) (hb : 0 < base) (hD : D ≤ maxInt64) : ∃ v, D ≤ calcTimeout base v :=
  ⟨63, by unfold calcTimeout; rw [if_neg (by omega), if_pos (by omega)]; exact hD⟩

/-! ## quorum of PREPAREs ⇒ COMMIT; quorum of COMMITs ⇒ committed -/

theorem onPreparedLocally_effects (w : Term.W) (h v hash : Nat) :
    (onPreparedLocally w h v hash).n.prepared = some v
    ∧ Out.send (others w.n.cfg) (.commit (ownCommit w.n.cfg h v hash)) ∈ (onPreparedLocally w h v hash).outs
    ∧ C03.ckey (ownCommit w.n.cfg h v hash) ∈ (onPreparedLocally w h v hash).n.store.commits.map C03.ckey := by
  obtain ⟨_, hs, _, hp, _⟩ := onPreparedLocally_n w h v hash
  refine ⟨hp, ?_, by rw [hs]; exact (storeCommit_firstWins _ _).has_key⟩
  rw [onPreparedLocally_eq]
  obtain ⟨l, el, _⟩ := checkCommitted_appends (preparedW w h v hash) h v hash
  rw [el]
  exact List.mem_append_left _ (List.mem_append_right _ (List.mem_singleton.mpr rfl))

/-- **A node whose log reaches a quorum of PREPAREs for the accepted proposal sends its COMMIT** (`PreparedCond`: it
is not yet prepared in `v`, holds the proposal with its block, and the logged PREPAREs for its hash reach quorum
together with the proposer). -/
theorem becomes_prepared (w : Term.W) (h v hash : Nat) (hc : PreparedCond w.n h v hash) :
    (checkPreparedLocally w h v hash).n.prepared = some v
    ∧ Out.send (others w.n.cfg) (.commit (ownCommit w.n.cfg h v hash)) ∈ (checkPreparedLocally w h v hash).outs := by
  rw [checkPreparedLocally_of_cond hc]
  exact ⟨(onPreparedLocally_effects w h v hash).1, (onPreparedLocally_effects w h v hash).2.1⟩

/-- the converse of `checkCommitted_cases` -/
theorem checkCommitted_of_cond (w : Term.W) (h v hash : Nat) (ppm : PPMsg) (b : Block)
    (hnc : w.n.committed = none) (hpp : w.n.store.getPP h v = some ppm) (hb : ppm.block = some b)
    (hh : ppm.c.header.hash = hash)
    (hq : isQuorum w.n.cfg ((w.n.store.getCommits h v hash).map (·.sender.id)) = true)
    (hctx : (ctxFor w h maxView).2.isSome = true) :
    checkCommitted w h v hash = commitW (ctxFor w h maxView).1 h v hash b := by
  have hc : CommitCond w.n h v hash b := ⟨hnc, hq, ppm, hpp, hb, hh⟩
  rcases checkCommitted_cases w h v hash with ⟨hno, _⟩ | ⟨b', hc', ⟨hn, _⟩ | ⟨_, e⟩⟩
  · exact absurd hc (hno b)
  · rw [hn] at hctx; cases hctx
  · rw [hc.block_eq hc']; exact e

/-- **A node that holds the proposal (with its block) and a quorum of COMMITs for it commits that
block** — provided it has not committed yet and its term-level context is still live. -/
theorem commits_when_quorum (w : Term.W) (h v hash : Nat) (ppm : PPMsg) (b : Block)
    (hnc : w.n.committed = none) (hpp : w.n.store.getPP h v = some ppm) (hb : ppm.block = some b)
    (hh : ppm.c.header.hash = hash)
    (hq : isQuorum w.n.cfg ((w.n.store.getCommits h v hash).map (·.sender.id)) = true)
    (hctx : (ctxFor w h maxView).2.isSome = true) :
    (checkCommitted w h v hash).n.committed = some b
    ∧ Out.commit b (w.n.store.getCommits h v hash) ∈ (checkCommitted w h v hash).outs := by
  rw [checkCommitted_of_cond w h v hash ppm b hnc hpp hb hh hq hctx]
  exact ⟨by rw [commitW_n], commitW_cb_mem _ h v hash b⟩

/-! ## one node through a good view -/

/-- the registry still hands out the term-level context of height `h` -/
def Live (r : Contexts.Reg) (h : Nat) : Prop := r.shutdown = false ∧ Contexts.isStale r ⟨h, maxView⟩ = false

def RegSame (a b : Contexts.Reg) : Prop := b.shutdown = a.shutdown ∧ b.watermark = a.watermark

theorem RegSame.refl (a : Contexts.Reg) : RegSame a a := ⟨rfl, rfl⟩
theorem RegSame.trans {a b c : Contexts.Reg} (h1 : RegSame a b) (h2 : RegSame b c) : RegSame a c :=
  ⟨h2.1.trans h1.1, h2.2.trans h1.2⟩

theorem Live.ready {r : Contexts.Reg} {h : Nat} (hl : Live r h) : C15.Ready r ⟨h, maxView⟩ :=
  ⟨hl.1, fun hs => Bool.false_ne_true (hl.2.symm.trans ((C15.isStale_iff _ _).mpr hs))⟩

theorem Live.of_same {a b : Contexts.Reg} {h : Nat} (hs : RegSame a b) (hl : Live a h) : Live b h := by
  unfold Live Contexts.isStale at hl ⊢
  rw [hs.1, hs.2]; exact hl

theorem for_same (r : Contexts.Reg) (hv : State.HV) : RegSame r (Contexts.step r (.for_ hv)).1 :=
  ⟨(C15.for_frame r hv).2.1, (C15.for_frame r hv).1⟩

theorem ctxFor_same (w : Term.W) (h v : Nat) : RegSame w.n.reg (ctxFor w h v).1.n.reg := for_same w.n.reg ⟨h, v⟩

theorem ctxFor_live (w : Term.W) (h : Nat) (hl : Live w.n.reg h) : (ctxFor w h maxView).2.isSome = true := by
  obtain ⟨id, hid⟩ := hl.ready.ctx
  simp [ctxFor, hid]

theorem checkCommitted_same (w : Term.W) (h v hash : Nat) : RegSame w.n.reg (checkCommitted w h v hash).n.reg := by
  rcases checkCommitted_cases w h v hash with ⟨_, e⟩ | ⟨b, _, ⟨_, e⟩ | ⟨_, e⟩⟩ <;> rw [e]
  · exact RegSame.refl _
  · exact ctxFor_same w h maxView
  · rw [commitW_n]; exact ctxFor_same w h maxView

theorem onPreparedLocally_same (w : Term.W) (h v hash : Nat) : RegSame w.n.reg (onPreparedLocally w h v hash).n.reg := by
  rw [onPreparedLocally_eq]
  exact checkCommitted_same (preparedW w h v hash) h v hash

theorem checkPreparedLocally_same (w : Term.W) (h v hash : Nat) : RegSame w.n.reg (checkPreparedLocally w h v hash).n.reg := by
  rcases checkPreparedLocally_cases w h v hash with ⟨_, e⟩ | ⟨_, e⟩
  · rw [e]; exact RegSame.refl _
  · rw [e]; exact onPreparedLocally_same w h v hash

theorem handlePrepare_same (w : Term.W) (pm : PMsg) : RegSame w.n.reg (handlePrepare w pm).n.reg := by
  rcases handlePrepare_cases w pm with ⟨_, e⟩ | ⟨_, e⟩ <;> rw [e]
  · exact RegSame.refl _
  · -- the state is given: from `RegSame ?w.n.reg _` Lean first tries `?w := w`, and refuting that means unfolding the function
    exact checkPreparedLocally_same { w with n := { w.n with store := w.n.store.storePrepare pm } } _ _ _

theorem handleCommit_same (w : Term.W) (cm : CMsg) : RegSame w.n.reg (handleCommit w cm).n.reg := by
  rcases handleCommit_cases w cm with ⟨_, e⟩ | ⟨_, e⟩ <;> rw [e]
  · exact RegSame.refl _
  · exact checkCommitted_same { w with n := { w.n with store := w.n.store.storeCommit cm } } _ _ _

/-! ### commit phase -/

theorem committed_stays (w : Term.W) (cm : CMsg) (h : w.n.committed.isSome = true) :
    (handleCommit w cm).n.committed.isSome = true := (C13.cbOK_acts (handleCommit_acts w cm)).mono h

theorem quorum_of_logged_commits {c : Cfg} (hfit : C06.Fits c.members) {R : List Nat} (hq : isQuorum c R = true) (s : Store)
    (h v hash : Nat) (hall : ∀ id ∈ R, (h, v, hash, id) ∈ s.commits.map C03.ckey) :
    isQuorum c ((s.getCommits h v hash).map (·.sender.id)) = true :=
  C06.isQuorum_mono c.members hfit R _ (fun i hi => Term.mem_getCommits_ids.mpr (hall i hi)) hq

/-- **Commit phase of a good view, in its general form.**  A node that holds the proposal of (h, v) with
its block `b` and has a live term context is delivered a list of COMMITs; every member of `R` (quorum
weight) has its COMMIT for the proposal logged already or authentic in the list; and the node has
committed, or some authentic COMMIT for the proposal is in the list at all (logged before or not: the
commit check runs again when it is handled).  Then the node has committed afterwards. -/
theorem commit_phase (cms : List CMsg) (h v hash : Nat) (ppm : PPMsg) (b : Block) (R : List Nat) (c : Cfg)
    (hfit : C06.Fits c.members) (hq : isQuorum c R = true) (hb : ppm.block = some b) (hh : ppm.c.header.hash = hash) :
    ∀ (w : Term.W), w.n.cfg = c → w.n.store.getPP h v = some ppm → Live w.n.reg h →
      (∀ id ∈ R, (h, v, hash, id) ∈ w.n.store.commits.map C03.ckey ∨
          ∃ cm ∈ cms, C08.CommitAuthentic w.n cm ∧ C03.ckey cm = (h, v, hash, id)) →
      (w.n.committed.isSome = true ∨ ∃ cm ∈ cms, C08.CommitAuthentic w.n cm ∧ ∃ id, C03.ckey cm = (h, v, hash, id)) →
      (cms.foldl handleCommit w).n.committed.isSome = true := by
  induction cms with
  | nil =>
    intro w _ _ _ _ hst
    rcases hst with hc | ⟨_, hcm, _⟩
    · exact hc
    · cases hcm
  | cons cm rest ih =>
    intro w hcfg hpp hlive hR hst
    have hev := (handleCommit_acts w cm).evolves
    have hauthT : ∀ x, C08.CommitAuthentic w.n x → C08.CommitAuthentic (handleCommit w cm).n x := by
      intro x hx; unfold C08.CommitAuthentic at hx ⊢; rw [hev.cfg]; exact hx
    -- what the rest of the list still has to deliver
    have hR' : ∀ id ∈ R, (h, v, hash, id) ∈ (handleCommit w cm).n.store.commits.map C03.ckey ∨
        ∃ x ∈ rest, C08.CommitAuthentic (handleCommit w cm).n x ∧ C03.ckey x = (h, v, hash, id) := by
      intro id hid
      rcases hR id hid with k | ⟨x, hx, hxa, hxk⟩
      · exact Or.inl ((hev.storeLe.commits.map _).subset k)
      · rcases List.mem_cons.mp hx with rfl | hx'
        · exact Or.inl (hxk ▸ C11.authentic_commit_is_counted w x hxa)
        · exact Or.inr ⟨x, hx', hauthT x hxa, hxk⟩
    refine ih (handleCommit w cm) (by rw [hev.cfg]; exact hcfg) (hev.getPP_stable h v ppm hpp)
      (Live.of_same (handleCommit_same w cm) hlive) hR' ?_
    cases hnc : w.n.committed with
    | some _ => exact Or.inl (committed_stays w cm (by rw [hnc]; rfl))
    | none =>
      obtain ⟨x, hx, hxa, id, hxk⟩ := hst.resolve_left (by rw [hnc]; exact Bool.false_ne_true)
      rcases List.mem_cons.mp hx with rfl | hx'
      · -- `x` is handled now: it is logged and the commit check runs for (h, v, hash)
        by_cases hmiss : ∃ id ∈ R, (h, v, hash, id) ∉ (handleCommit w x).n.store.commits.map C03.ckey
        · obtain ⟨id', hid', hm⟩ := hmiss
          obtain ⟨y, hy, hya, hyk⟩ := (hR' id' hid').resolve_left hm
          exact Or.inr ⟨y, hy, hya, id', hyk⟩
        · left
          simp only [C03.ckey, Prod.mk.injEq] at hxk
          rw [((handleCommit_cases w x).resolve_left (fun h => h.1 hxa)).2, hxk.1, hxk.2.1, hxk.2.2.1] at hmiss ⊢
          rw [(checkCommitted_n _ _ _ _).2.1] at hmiss
          rw [(commits_when_quorum ({ w with n := { w.n with store := w.n.store.storeCommit x } } : Term.W) h v hash ppm b hnc
            (apply_getPP_stable w.n.store (.commit x) h v ppm hpp) hb hh
            (hcfg ▸ quorum_of_logged_commits hfit hq _ h v hash
              (fun id hid => Classical.byContradiction fun hk => hmiss ⟨id, hid, hk⟩))
            (ctxFor_live _ h hlive)).1]
          rfl
      · exact Or.inr ⟨x, hx', hauthT x hxa, id, hxk⟩

/-- **Commit phase of a good view.**  A node that holds the proposal of (h, v) with its block `b`,
has a live term context and has not committed, and is then delivered any list of COMMITs among
which are authentic COMMITs for that proposal from members `R` of quorum weight (some possibly
logged already, at least one not), has committed afterwards — whatever else the list contains. -/
theorem good_view_commits (cms : List CMsg) (h v hash : Nat) (ppm : PPMsg) (b : Block) (R : List Nat) (c : Cfg)
    (hfit : C06.Fits c.members) (hq : isQuorum c R = true) (hb : ppm.block = some b) (hh : ppm.c.header.hash = hash) :
    ∀ (w : Term.W), w.n.cfg = c → w.n.store.getPP h v = some ppm → Live w.n.reg h →
      (∀ id ∈ R, (h, v, hash, id) ∈ w.n.store.commits.map C03.ckey ∨
          ∃ cm ∈ cms, C08.CommitAuthentic w.n cm ∧ C03.ckey cm = (h, v, hash, id)) →
      (w.n.committed.isSome = true ∨ (w.n.committed = none ∧ ∃ id ∈ R, (h, v, hash, id) ∉ w.n.store.commits.map C03.ckey)) →
      (cms.foldl handleCommit w).n.committed.isSome = true := by
  intro w hcfg hpp hlive hR hst
  refine commit_phase cms h v hash ppm b R c hfit hq hb hh w hcfg hpp hlive hR ?_
  rcases hst with hc | ⟨_, id, hid, hmiss⟩
  · exact Or.inl hc
  · obtain ⟨cm, hcm, ha, hk⟩ := (hR id hid).resolve_left hmiss
    exact Or.inr ⟨cm, hcm, ha, id, hk⟩

/-! ### prepare phase -/

def CommitSent (c : Cfg) (h v hash : Nat) (w : Term.W) : Prop :=
  C03.ckey (ownCommit c h v hash) ∈ w.n.store.commits.map C03.ckey
  ∧ Out.send (others c) (.commit (ownCommit c h v hash)) ∈ w.outs

theorem handlePrepare_view (w : Term.W) (pm : PMsg) : (handlePrepare w pm).n.view = w.n.view := by
  rcases handlePrepare_cases w pm with ⟨_, e⟩ | ⟨_, e⟩ <;> rw [e]
  exact (Term.checkPreparedLocally_view _ _ _ _).1

/-- the prepare check stays silent only while a PREPARE of `R` is missing: with all of them logged, `R` and the
proposer are a logged quorum -/
theorem prepare_missing {n : Node} (hfit : C06.Fits n.cfg.members) {R : List Nat} {h v hash : Nat} {ppm : PPMsg}
    (hq : isQuorum n.cfg (R ++ [ppm.c.sender.id]) = true) (hpp : n.store.getPP h v = some ppm)
    (hbk : ppm.block.isSome = true) (hh : ppm.c.header.hash = hash) (hnp : n.prepared ≠ some v)
    (hnc : ¬ PreparedCond n h v hash) : ∃ id ∈ R, (h, v, hash, id) ∉ n.store.prepares.map C11.pkey := by
  refine Classical.byContradiction fun hno => hnc ⟨hnp, (isPreprepared_iff _ _ _ _).mpr ⟨ppm, hpp, hbk, hh⟩, ppm, hpp, ?_⟩
  refine C06.isQuorum_mono n.cfg.members hfit (R ++ [ppm.c.sender.id]) _ (fun i hi => ?_) hq
  rcases List.mem_append.mp hi with hi | hi
  · exact List.mem_append_left _ (Term.mem_getPrepares_ids.mpr (Classical.byContradiction fun hk => hno ⟨i, hi, hk⟩))
  · exact List.mem_append_right _ hi

theorem commitSent_of_prepared (w : Term.W) (h v hash : Nat) : CommitSent w.n.cfg h v hash (onPreparedLocally w h v hash) :=
  ⟨(onPreparedLocally_effects w h v hash).2.2, (onPreparedLocally_effects w h v hash).2.1⟩

/-- **Prepare phase of a good view, in its general form.**  A node that holds the proposal of (h, v)
with its block is delivered a list of PREPAREs of height `h`; every member of `R` (with the
proposer: quorum weight) has its PREPARE for the proposal logged already or authentic in the list; and
the node's COMMIT is out, or it is not prepared in `v` and some authentic PREPARE for the proposal is in
the list at all (logged before or not: the check runs again when it is handled).  Then its COMMIT is
logged and sent afterwards. -/
theorem prepare_phase (pms : List PMsg) (h v hash : Nat) (ppm : PPMsg) (R : List Nat) (c : Cfg)
    (hfit : C06.Fits c.members) (hq : isQuorum c (R ++ [ppm.c.sender.id]) = true)
    (hbk : ppm.block.isSome = true) (hh : ppm.c.header.hash = hash)
    (hheight : ∀ pm ∈ pms, pm.header.height = h) :
    ∀ (w : Term.W), w.n.cfg = c → w.n.store.getPP h v = some ppm →
      (∀ id ∈ R, (h, v, hash, id) ∈ w.n.store.prepares.map C11.pkey ∨
          ∃ pm ∈ pms, C08.PrepareAuthentic w.n pm ∧ C11.pkey pm = (h, v, hash, id)) →
      (CommitSent c h v hash w ∨ (w.n.prepared ≠ some v ∧ ∃ pm ∈ pms, C08.PrepareAuthentic w.n pm ∧ ∃ id, C11.pkey pm = (h, v, hash, id))) →
      CommitSent c h v hash (pms.foldl handlePrepare w) := by
  induction pms with
  | nil =>
    intro w _ _ _ hst
    rcases hst with hc | ⟨_, _, hpm, _⟩
    · exact hc
    · cases hpm
  | cons pm rest ih =>
    intro w hcfg hpp hR hst
    have hev := (handlePrepare_acts w pm).evolves
    have hauthT : ∀ x, C08.PrepareAuthentic w.n x → C08.PrepareAuthentic (handlePrepare w pm).n x := by
      intro x hx; unfold C08.PrepareAuthentic at hx ⊢; rw [hev.cfg, handlePrepare_view]; exact hx
    have hR' : ∀ id ∈ R, (h, v, hash, id) ∈ (handlePrepare w pm).n.store.prepares.map C11.pkey ∨
        ∃ x ∈ rest, C08.PrepareAuthentic (handlePrepare w pm).n x ∧ C11.pkey x = (h, v, hash, id) := by
      intro id hid
      rcases hR id hid with k | ⟨x, hx, hxa, hxk⟩
      · exact Or.inl ((hev.storeLe.prepares.map _).subset k)
      · rcases List.mem_cons.mp hx with rfl | hx'
        · exact Or.inl (hxk ▸ C11.authentic_prepare_is_counted w x hxa)
        · exact Or.inr ⟨x, hx', hauthT x hxa, hxk⟩
    refine ih (fun x hx => hheight x (List.mem_cons_of_mem _ hx)) (handlePrepare w pm) (by rw [hev.cfg]; exact hcfg)
      (hev.getPP_stable h v ppm hpp) hR' ?_
    rcases hst with ⟨d1, d2⟩ | ⟨hnp, x, hx, hxa, id, hxk⟩
    · left
      obtain ⟨l, el, _⟩ := (handlePrepare_acts w pm).appends (NP_emits id)
      exact ⟨(hev.storeLe.commits.map _).subset d1, by rw [el]; exact List.mem_append_left _ d2⟩
    by_cases hpa : C08.PrepareAuthentic w.n pm
    · have hunf := ((handlePrepare_cases w pm).resolve_left (fun h => h.1 hpa)).2
      rw [hheight pm List.mem_cons_self] at hunf
      have hppS : ({ w with n := { w.n with store := w.n.store.storePrepare pm } } : Term.W).n.store.getPP h v = some ppm :=
        apply_getPP_stable w.n.store (.prepare pm) h v ppm hpp
      rcases checkPreparedLocally_cases ({ w with n := { w.n with store := w.n.store.storePrepare pm } } : Term.W) h pm.header.view pm.header.hash
        with ⟨hnc, e⟩ | ⟨⟨_, hpre, _⟩, e⟩
      · -- the check did not fire: the node is as before, with `pm` logged
        right
        rw [hunf, e]
        refine ⟨hnp, ?_⟩
        rcases List.mem_cons.mp hx with rfl | hx'
        · -- `x` was the PREPARE for the proposal: then some PREPARE of `R` is still missing, and is yet to come
          simp only [C11.pkey, Prod.mk.injEq] at hxk
          rw [hxk.2.1, hxk.2.2.1] at e hnc
          obtain ⟨id', hid', hm⟩ := prepare_missing (n := { w.n with store := w.n.store.storePrepare x }) (hcfg ▸ hfit)
            (hcfg ▸ hq) hppS hbk hh hnp hnc
          have hR'' := hR' id' hid'
          rw [hunf, hxk.2.1, hxk.2.2.1, e] at hR''
          obtain ⟨y, hy, hya, hyk⟩ := hR''.resolve_left hm
          exact ⟨y, hy, hya, id', hyk⟩
        · have := hauthT x hxa
          rw [hunf, e] at this
          exact ⟨x, hx', this, id, hxk⟩
      · -- it fired, for the view of `pm`
        by_cases hv : pm.header.view = v
        · -- view v: the stored proposal of (h, v) has hash `hash`, so it fired for (h, v, hash)
          left
          rw [hv] at hpre e hunf
          obtain ⟨p', hg', _, hh'⟩ := (isPreprepared_iff _ _ _ _).mp hpre
          rw [hppS] at hg'; cases hg'
          rw [hunf, e, ← hh', hh]
          exact hcfg ▸ commitSent_of_prepared _ h v hash
        · right
          refine ⟨?_, ?_⟩
          · rw [hunf, e, (onPreparedLocally_effects _ _ _ _).1]
            exact fun he => hv (Option.some.inj he)
          · rcases List.mem_cons.mp hx with rfl | hx'
            · simp only [C11.pkey, Prod.mk.injEq] at hxk
              exact absurd hxk.2.1 hv
            · exact ⟨x, hx', hauthT x hxa, id, hxk⟩
    · right
      rw [C08.prepare_ignored_unless_authentic w pm hpa]
      refine ⟨hnp, x, ?_, hxa, id, hxk⟩
      rcases List.mem_cons.mp hx with rfl | hx'
      · exact absurd hxa hpa
      · exact hx'

/-- **Prepare phase of a good view.**  A node in view `v`, not yet prepared in it, that holds the proposal of
(h, v) with its block and is delivered any list of PREPAREs of height `h`, among which are authentic PREPAREs for
that proposal from members `R` that together with the proposer reach quorum weight (some possibly
logged already, at least one not), has logged and sent its COMMIT for that proposal afterwards. -/
theorem good_view_prepares (pms : List PMsg) (h v hash : Nat) (ppm : PPMsg) (R : List Nat) (c : Cfg)
    (hfit : C06.Fits c.members) (hq : isQuorum c (R ++ [ppm.c.sender.id]) = true)
    (hbk : ppm.block.isSome = true) (hh : ppm.c.header.hash = hash)
    (hheight : ∀ pm ∈ pms, pm.header.height = h) :
    ∀ (w : Term.W), w.n.cfg = c → w.n.view = v → w.n.store.getPP h v = some ppm →
      (∀ id ∈ R, (h, v, hash, id) ∈ w.n.store.prepares.map C11.pkey ∨
          ∃ pm ∈ pms, C08.PrepareAuthentic w.n pm ∧ C11.pkey pm = (h, v, hash, id)) →
      (CommitSent c h v hash w ∨ (w.n.prepared ≠ some v ∧ ∃ id ∈ R, (h, v, hash, id) ∉ w.n.store.prepares.map C11.pkey)) →
      CommitSent c h v hash (pms.foldl handlePrepare w) := by
  intro w hcfg hview hpp hR hst
  refine prepare_phase pms h v hash ppm R c hfit hq hbk hh hheight w hcfg hpp hR ?_
  rcases hst with hc | ⟨hnp, id, hid, hmiss⟩
  · exact Or.inl hc
  · obtain ⟨pm, hpm, ha, hk⟩ := (hR id hid).resolve_left hmiss
    exact Or.inr ⟨hnp, pm, hpm, ha, id, hk⟩

end LeanHelix.C05
