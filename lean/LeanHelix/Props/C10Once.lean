import LeanHelix.Props.C01Local
/-!
# C10 — at most one PREPREPARE / NEW_VIEW / PREPARE per view over whole executions

`C01Local.one_acceptance_per_view`, restated for C10: for every configuration whose weight fits 64
bits, a term that is started and then handles *any* sequence of deliveries the worker lets through
(`C01Local.EventOK`), election triggers and cancellations with *any* SPI answers sends, over the whole execution, at most one message that
accepts a proposal per view — a PREPREPARE (view 0, as leader), a NEW_VIEW (as elected leader) or a
PREPARE (as follower).  Hence the PREPREPARE of view 0 goes out at most once per term, a leader never
also sends a PREPARE for the view it proposed in, and no view sees two PREPAREs or two NEW_VIEWs of one
node.  (That all of a view's acceptances name one hash is `C01Local.one_hash_per_view`; this theorem is
the counting half: there is only one of them.)
-/
namespace LeanHelix.C10
open LeanHelix LeanHelix.Msg LeanHelix.Term LeanHelix.C01Local

/-- the view of a proposal-accepting send (PREPREPARE, PREPARE, NEW_VIEW) -/
def acceptView (o : Out) : Option Nat := (stmtOf o).bind accViewS

theorem at_most_one_accepting_send_per_view (c : Cfg) (hfit : C06.Fits c.members) (first : Bool) (spi0 : List Spi)
    (es : List (Event × List Spi)) (hes : ∀ x ∈ es, EventOK c x.1) :
    ((es.foldl Exec.next (Exec.next (({ cfg := c } : Node), []) (.start first, spi0))).2.filterMap acceptView).Nodup := by
  have := one_acceptance_per_view c hfit first spi0 es hes
  rw [List.filterMap_filterMap] at this
  exact this

/-- non-vacuity: in the example execution of `C01Local` the node accepts exactly one proposal (view 0) -/
example : (exEvents.foldl Exec.next (Exec.next (({ cfg := exCfg } : Node), []) (.start true, []))).2.filterMap acceptView = [0] := by
  decide

end LeanHelix.C10
