import LeanHelix.Props.C13Commit
import LeanHelix.Props.C01Net
/-!
# C13 (commit part) at the network level: one commit callback per correct member and height

`C13.at_most_one_commit` is about one term after its start.  Here the same is read off every reachable
state of the network model, start step included: in any execution, with any adversary, a correct
member's commit callback has been invoked at most once for the term's height, and only a member whose
`committed` latch is set has invoked it (`net_at_most_one_commit`).  With `C01Net.net_agreement` all
such callbacks, of all correct members, are for one certified hash.
-/
namespace LeanHelix.C13Net
open LeanHelix LeanHelix.Msg LeanHelix.Term LeanHelix.Net LeanHelix.C13

variable {C : NetCfg}

/-- **the commit callbacks a correct member has made are exactly its latch**: none while `committed` is
empty, one once it is set — in every reachable state of the network, start step included -/
theorem net_callbacks_eq_latch {net : Net} (hr : Reach C net) (i : Nat) : cbCount (net.outs i) = latch (net.node i) := by
  refine reach_member (P := fun _ n outs => cbCount outs = latch n) (fun _ => rfl) (fun _ n outs e spi w' _ _ hst ih => ?_) hr i
  have : cbCount w'.outs + latch n = latch w'.n := by
    have := step_latch_eq n e spi
    rwa [hst] at this
  rw [cbCount_append, ih]
  omega

/-- **at most one commit callback per correct member**, in every reachable state of the network -/
theorem net_at_most_one_commit {net : Net} (hr : Reach C net) (i : Nat) :
    cbCount (net.outs i) ≤ (if (net.node i).committed.isSome then 1 else 0) :=
  Nat.le_of_eq (net_callbacks_eq_latch hr i)

/-- **the latch and the callback go together**: a correct member whose term is marked committed has
invoked its commit callback (exactly once, by `net_at_most_one_commit`) -/
theorem net_committed_has_callback {net : Net} (hr : Reach C net) (i : Nat)
    (hc : (net.node i).committed.isSome = true) : ∃ b cs, Out.commit b cs ∈ net.outs i :=
  cbCount_pos_iff.mp (by rw [net_callbacks_eq_latch hr i, latch_eq_one.mpr hc]; exact Nat.le_refl 1)

end LeanHelix.C13Net
