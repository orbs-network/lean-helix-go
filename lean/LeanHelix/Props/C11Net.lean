import LeanHelix.Props.C01Net
/-!
# C11 at the network level: a correct leader's NEW_VIEW is accepted by every correct peer

`Props/C11.lean` and `Props/C11NewView.lean` prove the two halves of C11 about one node: the vote a
correct node builds passes the checks of a peer *given* its log invariants, and the NEW_VIEW the
election path builds is a valid certificate *given* that every counted vote was checked.  Here the
hypotheses are discharged by the network model (`Net/Reach.lean`): in every reachable state of a
network of correct members and an unforgeability-bounded adversary, under the consumer contract A2
(a block the consumer approved commits to the hash it was proposed under),

* `net_newview_is_valid_certificate` — every NEW_VIEW a correct member has ever sent is
  `C07.ValidCertificate` (every check `handleNewView` makes before adopting) at every correct member
  whose view is not above the NEW_VIEW's, whatever Byzantine votes the leader counted;
* `net_newview_is_adopted` — such a member that holds no proposal for that view moves to the
  NEW_VIEW's view and sends its PREPARE for the embedded proposal when the message is delivered
  (when no counted vote carries a proof, provided its consumer accepts the fresh block);
* `net_own_votes_checked` — every vote a correct member logged as its own passes every check a peer
  applies to a received vote.

The invariant behind them (`Net.Body.ownVotes`, `Net.OutsOK`) is part of `Net.reach_blocks`.
-/
namespace LeanHelix.C11Net
open LeanHelix LeanHelix.Msg LeanHelix.Term LeanHelix.Spec LeanHelix.Net

variable {C : NetCfg}

theorem node_cfg (hwf : WF C) {net : Net} (hr : Reach C net) (j : Nat) (hj : C.honest j = true) (hmj : ∃ m ∈ C.ms, m.id = j) :
    (net.node j).cfg = C.cfg j :=
  reach_cfg hr j

/-- **every NEW_VIEW a correct leader sends is a valid certificate at every correct member whose
view is not higher** (C11, NEW_VIEW half, for every execution of the network model under A2) -/
theorem net_newview_is_valid_certificate (hwf : WF C) {net : Net} (hr : Reach C net) (hA2 : TraceA2 net.trace)
    {i j : Nat} (hi : C.honest i = true) (hmi : ∃ m ∈ C.ms, m.id = i)
    (hj : C.honest j = true) (hmj : ∃ m ∈ C.ms, m.id = j)
    (rs : List Nat) (nv : NVMsg) (hsent : Out.send rs (.newView nv) ∈ net.outs i)
    (hview : ¬ (net.node j).view > nv.header.view) :
    C07.ValidCertificate (net.node j) nv := by
  obtain ⟨_, _, hgood⟩ := (reach_blocks hwf hr hA2 i hi hmi).2.newView hsent
  refine hgood (net.node j) ?_ hview
  rw [node_cfg hwf hr j hj hmj]
  exact ⟨rfl, rfl, rfl⟩

/-- **delivering it makes the peer follow**: a correct member at a view not above the NEW_VIEW's,
holding no proposal for that view, moves to that view and sends its PREPARE for the embedded
proposal (if no counted vote carries a proof: provided its consumer accepts the fresh block) -/
theorem net_newview_is_adopted (hwf : WF C) {net : Net} (hr : Reach C net) (hA2 : TraceA2 net.trace)
    {i j : Nat} (hi : C.honest i = true) (hmi : ∃ m ∈ C.ms, m.id = i)
    (hj : C.honest j = true) (hmj : ∃ m ∈ C.ms, m.id = j)
    (rs : List Nat) (nv : NVMsg) (hsent : Out.send rs (.newView nv) ∈ net.outs i)
    (hview : ¬ (net.node j).view > nv.header.view)
    (hnone : (net.node j).store.getPP nv.pp.header.height nv.pp.header.view = none)
    (spi : List Spi)
    (hfresh : (latestVote nv.header.votes).isNone = true →
        (askValidate { n := net.node j, spi := spi } nv.header.height nv.header.view nv.block nv.pp.header.hash).2 = true) :
    (handleNewView { n := net.node j, spi := spi } nv).n.view = nv.header.view
    ∧ Out.send (others (net.node j).cfg) (.prepare (ownPrepare (net.node j).cfg nv.header.height nv.header.view nv.pp.header.hash))
        ∈ (handleNewView { n := net.node j, spi := spi } nv).outs := by
  have hcert := net_newview_is_valid_certificate hwf hr hA2 hi hmi hj hmj rs nv hsent hview
  obtain ⟨hty, hsig, _⟩ := (reach_blocks hwf hr hA2 i hi hmi).2.newView hsent
  exact C11.valid_newview_is_adopted { n := net.node j, spi := spi } nv hcert
    (((nvGuards_iff _ _).mpr hcert).ppAuthentic hty hsig hnone) hfresh

/-- **own votes pass the peers' checks**: every vote a correct member logged under its own name is
valid for every node of the term (C11, VIEW_CHANGE half) -/
theorem net_own_votes_checked (hwf : WF C) {net : Net} (hr : Reach C net) (hA2 : TraceA2 net.trace)
    {i : Nat} (hi : C.honest i = true) (hmi : ∃ m ∈ C.ms, m.id = i)
    (m : VCMsg) (hm : m ∈ (net.node i).store.vcs) (hown : m.c.sender = mySig (C.cfg i))
    (peer : Node) (hsim : CfgSim peer.cfg (C.cfg i)) :
    isViewChangeValid peer m.c = true
    ∧ ¬ (m.block.isNone = true ∧ m.c.header.proof.isSome = true)
    ∧ (m.block.isSome = true → commitmentOk m.block (proofHash m.c.header.proof) = true) := by
  have hcfg := node_cfg hwf hr i hi hmi
  obtain ⟨h1, h2, h3⟩ := (reach_blocks hwf hr hA2 i hi hmi).1.ownVotes m hm (by rw [hcfg]; exact hown)
  refine ⟨?_, h2, h3⟩
  rw [isViewChangeValid_sim peer (net.node i) (by rw [hcfg]; exact hsim)]
  exact h1

/-- **sent votes pass the peers' checks**: every VIEW_CHANGE a correct member has sent — the vote of a
member that is not the next leader goes out without being logged — passes everything `handleViewChange`
checks before logging it, at every node of the term (C11, VIEW_CHANGE half, for the messages on the wire;
`Net.VoteGood`, fourth conjunct of `Net.OutsOK`) -/
theorem net_sent_votes_checked (hwf : WF C) {net : Net} (hr : Reach C net) (hA2 : TraceA2 net.trace)
    {i : Nat} (hi : C.honest i = true) (hmi : ∃ m ∈ C.ms, m.id = i)
    (rs : List Nat) (vc : VCMsg) (hsent : Out.send rs (.viewChange vc) ∈ net.outs i)
    (peer : Node) (hsim : CfgSim peer.cfg (C.cfg i)) : C11.VoteChecked peer vc :=
  (reach_blocks hwf hr hA2 i hi hmi).2.vote hsent peer hsim

/-! ## non-vacuity: a concrete execution with a view change

Committee {1,2,3,4}, member 4 Byzantine (silent here).  Nobody proposes in view 0; the election
timers of 3, 1 and 2 fire; 3 and 1 send their votes to member 2, the leader of view 1, which counts
them with its own, is elected, asks its consumer for a block and sends the NEW_VIEW.  Every step
passes the decidable checks of `Net/Sim.lean`, so the state is reachable; its schedule obeys A2; and
the theorems above apply to the NEW_VIEW member 2 sent, at members 1 and 3. -/

open LeanHelix.C01Net (exC exWF)

def exVC (i : Nat) : VCMsg := ⟨⟨⟨tVC, 7, 5, 1, none⟩, ⟨i, true⟩⟩, none⟩
def exBlock2 : Block := ⟨11, 5, 77⟩
def exNV : NVMsg :=
  ⟨⟨tNV, 7, 5, 1, [(exVC 2).c, (exVC 3).c, (exVC 1).c]⟩, ⟨2, true⟩, ⟨⟨tPP, 7, 5, 1, 77⟩, ⟨2, true⟩⟩, some exBlock2⟩

def exSchedVC : List SStep :=
  [(1, .start false, []),
   (2, .start false, []),
   (3, .start false, []),
   (3, .election 5 0, []),
   (1, .election 5 0, []),
   (2, .election 5 0, []),
   (2, .deliver (.viewChange (exVC 3)), []),
   (2, .deliver (.viewChange (exVC 1)), [.proposal exBlock2 none])]

def sendsOf (outs : List Out) : List (List Nat × Message) :=
  outs.filterMap (fun o => match o with | .send r m => some (r, m) | _ => none)

theorem mem_sendsOf {outs : List Out} {r : List Nat} {m : Message} (h : (r, m) ∈ sendsOf outs) : Out.send r m ∈ outs := by
  obtain ⟨o, ho, he⟩ := List.mem_filterMap.mp h
  cases o <;> cases he
  exact ho

theorem exOkVC : simOk exC (SimState.init exC) exSchedVC = true := by decide

theorem exVC_traceA2 : TraceA2 exSchedVC.reverse := by
  intro t ht
  rw [List.mem_reverse] at ht
  simp only [exSchedVC, List.mem_cons, List.not_mem_nil, or_false] at ht
  intro cd rest hspi
  rcases ht with rfl | rfl | rfl | rfl | rfl | rfl | rfl | rfl <;> first | (simp at hspi; done) | trivial

/-- the leader of view 1 sent the NEW_VIEW, and members 1 and 3 (both in view 1, holding no proposal
for it) accept it as a certificate; delivered to member 3 with an approving consumer, member 3 sends
its PREPARE for the new leader's block -/
theorem ex_newview : ∃ net, Reach exC net ∧ TraceA2 net.trace
    ∧ Out.send [1, 3, 4] (.newView exNV) ∈ net.outs 2
    ∧ C07.ValidCertificate (net.node 1) exNV ∧ C07.ValidCertificate (net.node 3) exNV
    ∧ Out.send [1, 2, 4] (.prepare ⟨⟨tP, 7, 5, 1, 77⟩, ⟨3, true⟩⟩)
        ∈ (handleNewView { n := net.node 3, spi := [.verdict true none] } exNV).outs := by
  obtain ⟨net, hr, ⟨hn, _, ho⟩, ht⟩ := reach_of_sched exWF exSchedVC exOkVC
  have hA2 : TraceA2 net.trace := ht ▸ exVC_traceA2
  have hsent : Out.send [1, 3, 4] (.newView exNV) ∈ net.outs 2 := by rw [ho]; exact mem_sendsOf (by decide)
  have mem : ∀ i, i = 1 ∨ i = 2 ∨ i = 3 → ∃ m ∈ exC.ms, m.id = i := by
    intro i hi; rcases hi with rfl | rfl | rfl <;> exact ⟨⟨_, 1⟩, by decide, rfl⟩
  refine ⟨net, hr, hA2, hsent, ?_, ?_, ?_⟩
  · exact net_newview_is_valid_certificate exWF hr hA2 (i := 2) (j := 1) rfl (mem 2 (by simp)) rfl (mem 1 (by simp)) _ _ hsent
      (by rw [hn]; decide)
  · exact net_newview_is_valid_certificate exWF hr hA2 (i := 2) (j := 3) rfl (mem 2 (by simp)) rfl (mem 3 (by simp)) _ _ hsent
      (by rw [hn]; decide)
  · have := (net_newview_is_adopted exWF hr hA2 (i := 2) (j := 3) rfl (mem 2 (by simp)) rfl (mem 3 (by simp)) _ _ hsent
      (by rw [hn]; decide) (by rw [hn]; decide) [.verdict true none] (by intro _; rw [hn]; decide)).2
    rw [hn] at this ⊢
    exact this

end LeanHelix.C11Net
