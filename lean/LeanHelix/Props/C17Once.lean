import LeanHelix.Props.C17
/-!
# C17 — no message is delivered twice

For a fixed message id `u`, count its occurrences in the delivery log and among the cached messages
of heights above the node's.  No operation other than receiving a message with id `u` increases that
count (`step_cnt`), however round starts nest inside deliveries.  Hence, over every sequence of
receive / start-round operations in which the id is received at most once, it is delivered at most
once (`delivered_at_most_once`).
-/
namespace LeanHelix.C17
open LeanHelix.Filter

def cntMsgs (u : Nat) : List FMsg → Nat
  | [] => 0
  | m :: r => (if m.uid = u then 1 else 0) + cntMsgs u r

def cntLog (u : Nat) : List (Nat × FMsg) → Nat
  | [] => 0
  | e :: r => (if e.2.uid = u then 1 else 0) + cntLog u r

def cntCache (u sh : Nat) : List (Nat × List FMsg) → Nat
  | [] => 0
  | p :: r => (if p.1 > sh then cntMsgs u p.2 else 0) + cntCache u sh r

def cnt (u : Nat) (f : Filt) : Nat := cntLog u f.log + cntCache u f.stateHeight f.cache

theorem cntMsgs_append (u : Nat) (a b : List FMsg) : cntMsgs u (a ++ b) = cntMsgs u a + cntMsgs u b := by
  induction a with
  | nil => simp [cntMsgs]
  | cons x xs ih => simp only [List.cons_append, cntMsgs, ih]; omega

theorem cntLog_append (u : Nat) (a b : List (Nat × FMsg)) : cntLog u (a ++ b) = cntLog u a + cntLog u b := by
  induction a with
  | nil => simp [cntLog]
  | cons x xs ih => simp only [List.cons_append, cntLog, ih]; omega

theorem cntCache_filter (u sh : Nat) (q : Nat × List FMsg → Bool) (c : List (Nat × List FMsg)) :
    cntCache u sh (c.filter q) ≤ cntCache u sh c := by
  induction c with
  | nil => exact Nat.le_refl _
  | cons p r ih =>
    rw [List.filter_cons]
    split
    · simp only [cntCache]; omega
    · simp only [cntCache]; omega

theorem cntCache_raise (u sh h : Nat) (c : List (Nat × List FMsg)) (hlt : sh < h) :
    cntMsgs u (cacheGet c h) + cntCache u h c ≤ cntCache u sh c := by
  induction c with
  | nil => exact Nat.le_refl _
  | cons p r ih =>
    rw [cacheGet_cons]
    simp only [cntCache]
    by_cases hk : p.1 = h
    · rw [if_pos hk, hk, if_neg (Nat.lt_irrefl h), if_pos hlt]; omega
    · rw [if_neg hk]
      by_cases h1 : p.1 > h
      · rw [if_pos h1, if_pos (Nat.lt_trans hlt h1)]; omega
      · rw [if_neg h1]; omega

/-- `futureCache` is a Go map: one entry per height -/
def KeysDistinct (c : List (Nat × List FMsg)) : Prop := (c.map (·.1)).Nodup

theorem keysDistinct_filter {c : List (Nat × List FMsg)} (h : KeysDistinct c) (q : Nat × List FMsg → Bool) :
    KeysDistinct (c.filter q) :=
  List.Nodup.sublist (List.Sublist.map _ List.filter_sublist) h

theorem keysDistinct_cacheAppend {c : List (Nat × List FMsg)} (hd : KeysDistinct c) (h : Nat) (m : FMsg) :
    KeysDistinct (cacheAppend c h m) := by
  unfold KeysDistinct cacheAppend at *
  split
  · rw [List.map_map]
    exact (List.map_congr_left (fun q _ => congrArg Prod.fst (addTo_eq h m q))) ▸ hd
  next hany =>
    rw [List.map_append, List.nodup_append]
    refine ⟨hd, by simp, ?_⟩
    intro a ha b hb e
    obtain ⟨q, hq, rfl⟩ := List.mem_map.mp ha
    cases List.mem_singleton.mp hb
    exact hany (List.any_eq_true.mpr ⟨q, hq, by simpa using e⟩)

private theorem map_addTo_noop (h : Nat) (m : FMsg) (r : List (Nat × List FMsg)) (hr : ∀ q ∈ r, q.1 ≠ h) :
    r.map (addTo h m) = r := by
  induction r with
  | nil => rfl
  | cons q r ih =>
    rw [List.map_cons, ih (fun x hx => hr x (List.mem_cons_of_mem _ hx)), addTo_eq,
      if_neg (hr q (List.mem_cons_self ..))]

theorem cntCache_cacheAppend (u sh h : Nat) (m : FMsg) {c : List (Nat × List FMsg)} (hd : KeysDistinct c) :
    cntCache u sh (cacheAppend c h m) ≤ cntCache u sh c + (if m.uid = u then 1 else 0) := by
  induction c with
  | nil =>
    show (if h > sh then (if m.uid = u then 1 else 0) + 0 else 0) + 0 ≤ 0 + _
    by_cases hg : h > sh
    · rw [if_pos hg]; omega
    · rw [if_neg hg]; omega
  | cons p r ih =>
    have ⟨hp, hr⟩ := List.nodup_cons.mp hd
    rw [cacheAppend_cons]
    by_cases hk : p.1 = h
    · -- the keys are distinct: this is the only entry for `h`
      rw [if_pos hk, map_addTo_noop h m r (fun q hq e => hp (List.mem_map.mpr ⟨q, hq, e.trans hk.symm⟩))]
      simp only [cntCache, cntMsgs_append, cntMsgs]
      by_cases hg : p.1 > sh
      · rw [if_pos hg, if_pos hg]; omega
      · rw [if_neg hg, if_neg hg]; omega
    · rw [if_neg hk]
      simp only [cntCache]
      have := ih hr
      omega

/-! ## what the operations do to the count -/

theorem cnt_logDelivery (u : Nat) (f : Filt) (t : Nat) (m : FMsg) :
    cnt u (logDelivery f t m) = cnt u f + (if m.uid = u then 1 else 0) := by
  simp only [cnt, logDelivery, cntLog_append, cntLog]
  omega

/-- starting the round of `h`: what is drained plus what stays above `h` was all above the old height -/
theorem cnt_startRound (u : Nat) (f : Filt) (h : Nat) (hlt : f.stateHeight < h) :
    cnt u (startRound f h) + cntMsgs u (cacheGet (startRound f h).cache h) ≤ cnt u f := by
  have h1 := cntCache_raise u f.stateHeight h (clearEarlier f.cache h) hlt
  have h2 : cntCache u f.stateHeight (clearEarlier f.cache h) ≤ _ := cntCache_filter u f.stateHeight _ f.cache
  simp only [cnt, startRound]
  omega

theorem cnt_finishDrain (u : Nat) (f : Filt) (h : Nat) : cnt u (finishDrain f h) ≤ cnt u f :=
  Nat.add_le_add_left (cntCache_filter ..) _

theorem cnt_pushToCache (u : Nat) (f : Filt) (m : FMsg) (hd : KeysDistinct f.cache) :
    cnt u (pushToCache f m) ≤ cnt u f + (if m.uid = u then 1 else 0) ∧ KeysDistinct (pushToCache f m).cache := by
  rcases pushToCache_cases f m with ⟨_, e⟩ | ⟨c, hc, e⟩
  · rw [e]; exact ⟨Nat.le_add_right .., hd⟩
  · rw [e]
    have ⟨c1, c2⟩ : cntCache u f.stateHeight c ≤ cntCache u f.stateHeight f.cache ∧ KeysDistinct c := by
      rcases hc with ⟨_, rfl⟩ | ⟨_, rfl⟩
      · exact ⟨Nat.le_refl _, hd⟩
      · exact ⟨cntCache_filter .., keysDistinct_filter hd _⟩
    refine ⟨?_, keysDistinct_cacheAppend c2 ..⟩
    have := cntCache_cacheAppend u f.stateHeight m.height m c2
    simp only [cnt]
    omega

/-- relative to the drain of the same fuel, like `inv_advance`: inside `drain_cnt` that is the induction hypothesis -/
theorem cnt_advance {u fuel : Nat}
    (hd : ∀ (f : Filt) (height : Nat) (msgs : List FMsg), KeysDistinct f.cache →
      cnt u (drain fuel f height msgs) ≤ cnt u f + cntMsgs u msgs ∧ KeysDistinct (drain fuel f height msgs).cache)
    (f : Filt) (h : Nat) (hk : KeysDistinct f.cache) :
    cnt u (advance fuel f h) ≤ cnt u f ∧ KeysDistinct (advance fuel f h).cache := by
  unfold advance
  split
  · exact ⟨Nat.le_refl _, hk⟩
  next hlt =>
    have ⟨d1, d2⟩ := hd (startRound f h) h (cacheGet (startRound f h).cache h) (keysDistinct_filter hk _)
    exact ⟨Nat.le_trans (cnt_finishDrain ..) (Nat.le_trans d1 (cnt_startRound u f h (by omega))),
      keysDistinct_filter d2 _⟩

/-! ## the drain -/

theorem drain_cnt (u : Nat) (fuel : Nat) : ∀ (f : Filt) (height : Nat) (msgs : List FMsg), KeysDistinct f.cache →
    cnt u (drain fuel f height msgs) ≤ cnt u f + cntMsgs u msgs ∧ KeysDistinct (drain fuel f height msgs).cache := by
  induction fuel with
  | zero => intro f height msgs hd; exact ⟨Nat.le_add_right .., hd⟩
  | succ fuel ih =>
    intro f height msgs hd
    cases msgs with
    | nil => exact ⟨Nat.le_add_right .., hd⟩
    | cons m rest =>
      rw [drain_cons]
      show _ ≤ cnt u f + ((if m.uid = u then 1 else 0) + cntMsgs u rest) ∧ _
      split
      · exact ⟨Nat.le_add_right .., hd⟩
      split
      · have ⟨i1, i2⟩ := ih f height rest hd
        exact ⟨by omega, i2⟩
      next t c _ =>
        -- the delivery adds the message; the round start inside it adds nothing
        have ⟨d1, d2⟩ : cnt u (deliver fuel f t c m) ≤ cnt u f + (if m.uid = u then 1 else 0)
            ∧ KeysDistinct (deliver fuel f t c m).cache := by
          unfold deliver
          by_cases hs : (decide (m.script > 0) && !c) = true
          · rw [if_pos hs]
            exact cnt_logDelivery u f t m ▸ cnt_advance ih (markCommitted (logDelivery f t m) t) _ hd
          · rw [if_neg hs]
            exact ⟨Nat.le_of_eq (cnt_logDelivery ..), hd⟩
        have ⟨i1, i2⟩ := ih _ height rest d2
        exact ⟨by omega, i2⟩

/-! ## operations and executions -/

def opAdds (u : Nat) : Op → Nat
  | .recv m => if m.uid = u then 1 else 0
  | .advance _ => 0

theorem step_cnt (u fuel : Nat) (f : Filt) (op : Op) (hd : KeysDistinct f.cache) :
    cnt u (step fuel f op) ≤ cnt u f + opAdds u op ∧ KeysDistinct (step fuel f op).cache := by
  cases op with
  | recv m =>
    show cnt u (recv fuel f m) ≤ cnt u f + (if m.uid = u then 1 else 0) ∧ KeysDistinct (recv fuel f m).cache
    rcases recv_cases fuel f m with e | ⟨_, ⟨_, e⟩ | ⟨_, e⟩⟩
    · rw [e]; exact ⟨Nat.le_add_right .., hd⟩
    · rw [e]; exact cnt_pushToCache u f m hd
    · rw [e]; exact drain_cnt u fuel f m.height [m] hd
  | advance hh => exact cnt_advance (drain_cnt u fuel) f hh hd

def recvCount (u : Nat) : List Op → Nat
  | [] => 0
  | .recv m :: r => (if m.uid = u then 1 else 0) + recvCount u r
  | .advance _ :: r => recvCount u r

theorem run_cnt (u fuel : Nat) (ops : List Op) : ∀ f, KeysDistinct f.cache →
    cnt u (run fuel f ops) ≤ cnt u f + recvCount u ops := by
  induction ops with
  | nil => intro f _; exact Nat.le_refl _
  | cons o os ih =>
    intro f hd
    obtain ⟨s1, s2⟩ := step_cnt u fuel f o hd
    have e : run fuel f (o :: os) = run fuel (step fuel f o) os := rfl
    rw [e]
    have := ih _ s2
    cases o with
    | recv m => simp only [recvCount, opAdds] at *; omega
    | advance h => simp only [recvCount, opAdds] at *; omega

/-- **No message is delivered twice**: over every sequence of receive / start-round operations
(any nesting of round starts inside deliveries), a message id that is received at most once
appears at most once in the delivery log. -/
theorem delivered_at_most_once (fuel me inst : Nat) (ops : List Op) (u : Nat) (h : recvCount u ops ≤ 1) :
    cntLog u (run fuel { me := me, inst := inst } ops).log ≤ 1 := by
  have := run_cnt u fuel ops { me := me, inst := inst } (by unfold KeysDistinct; exact List.nodup_nil)
  unfold cnt at this
  simp only [cntLog, cntCache] at this
  omega

end LeanHelix.C17
