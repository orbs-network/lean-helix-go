import LeanHelix.Model.Leader
/-!
# C18 — Leader rotation is a total round-robin function of the view

Theorems about `Leader.leaderOf` (the model of `calcLeaderOfViewAndCommittee`) for every view
(any `Nat`, in particular the whole 64-bit range) and every ordered committee.  That every node computes
the same leader needs no theorem: `leaderOf` is a function of (view, ordered committee) only.
-/
namespace LeanHelix.C18
open LeanHelix Leader

/-- **Leader computation never fails for a non-empty committee, whatever the view, and the leader is
the member at position `view mod size`.** -/
theorem leader_total (view : Nat) (ms : List Member) (hne : ms ≠ []) :
    ∃ (h : view % ms.length < ms.length), leaderOf view ms = .ok (ms[view % ms.length]).id := by
  have hlt : view % ms.length < ms.length := Nat.mod_lt _ (List.length_pos_iff.mpr hne)
  refine ⟨hlt, ?_⟩
  unfold leaderOf leaderIndex
  rw [List.getElem?_eq_getElem hlt]

/-- The only failing case: the empty committee (Go: integer divide by zero). `NewTermInCommittee`
panics on committees with fewer than 4 members before any leader is computed. -/
theorem leader_fails_iff_empty (view : Nat) (ms : List Member) :
    (∃ w, leaderOf view ms = .panic w) ↔ ms = [] := by
  constructor
  · intro ⟨w, hw⟩
    by_cases hne : ms = []
    · exact hne
    · obtain ⟨_, h⟩ := leader_total view ms hne
      rw [h] at hw; cases hw
  · intro h; subst h; exact ⟨_, rfl⟩

theorem leader_periodic (view k : Nat) (ms : List Member) :
    leaderOf (view + k * ms.length) ms = leaderOf view ms := by
  unfold leaderOf leaderIndex
  rw [Nat.add_mul_mod_self_right]

theorem leader_eq_iff {ms : List Member} (hnd : (ms.map (·.id)).Nodup) {p : Nat} (hp : p < ms.length)
    (view : Nat) : leaderOf view ms = .ok ms[p].id ↔ view % ms.length = p := by
  obtain ⟨hlt, h⟩ := leader_total view ms (List.ne_nil_of_length_pos (by omega))
  rw [h]
  constructor
  · intro e
    have : (ms.map (·.id))[view % ms.length]'(by simpa using hlt) = (ms.map (·.id))[p]'(by simpa using hp) := by
      simp only [List.getElem_map]; injection e
    exact (List.getElem_inj hnd).mp this
  · intro e; subst e; rfl

/-! `i ↦ (s + i) % n` is a bijection of `{0, …, n-1}` -/

private theorem mod_inj {n s i j : Nat} (hi : i < n) (hj : j < n)
    (h : (s + i) % n = (s + j) % n) : i = j := by
  have h1 := Nat.sub_mod_eq_zero_of_mod_eq h
  have h2 := Nat.sub_mod_eq_zero_of_mod_eq h.symm
  rw [Nat.add_sub_add_left, Nat.mod_eq_of_lt (by omega)] at h1 h2
  omega

private theorem mod_surj {n s p : Nat} (hp : p < n) : ∃ i, i < n ∧ (s + i) % n = p := by
  have hs : s % n < n := Nat.mod_lt _ (by omega)
  refine ⟨(p + n - s % n) % n, Nat.mod_lt _ (by omega), ?_⟩
  rw [Nat.add_mod_mod, ← Nat.mod_add_mod, show s % n + (p + n - s % n) = p + n by omega,
    Nat.add_mod_right, Nat.mod_eq_of_lt hp]

/-- **Round robin: in any run of `size` consecutive views starting at `s`, each member (ids pairwise
distinct) leads exactly once.** -/
theorem leader_round_robin (ms : List Member) (hnd : (ms.map (·.id)).Nodup) (s : Nat)
    (m : Member) (hm : m ∈ ms) :
    ∃ i, i < ms.length ∧ leaderOf (s + i) ms = .ok m.id ∧
      ∀ j, j < ms.length → leaderOf (s + j) ms = .ok m.id → j = i := by
  obtain ⟨p, hp, rfl⟩ := List.getElem_of_mem hm
  obtain ⟨i, hi, hmod⟩ := mod_surj (s := s) hp
  refine ⟨i, hi, (leader_eq_iff hnd hp _).mpr hmod, fun j hj hlj => ?_⟩
  exact mod_inj hj hi (by rw [hmod, (leader_eq_iff hnd hp _).mp hlj])

/-! ## non-vacuity -/
def ex4 : List Member := [⟨10, 1⟩, ⟨11, 2⟩, ⟨12, 3⟩, ⟨13, 4⟩]
example : (ex4.map (·.id)).Nodup := by decide
example : leaderOf 9223372036854775809 ex4 = .ok 11 := by rfl   -- a view above 2^63
example : leaderOf 18446744073709551615 ex4 = .ok 13 := by rfl  -- 2^64-1

end LeanHelix.C18
