import LeanHelix.Model.Loops
import LeanHelix.Lemmas.WorkerActs
import LeanHelix.Props.C15Registry
/-!
# C14 — Node sync: the newest UpdateState always takes effect, stale ones never do

Over the Loops / Worker model (serialised schedules).  A sync for a block below the height being decided
emits nothing and leaves height, term and cache untouched (`stale_sync_changes_nothing`); the round
entered through UpdateState is started with `canBeFirstLeader = false` and, above height 1, proposes
nothing (`sync_passes_false`, `no_first_proposal_after_sync`); a sync for a block at or above the height
being decided, with a live registry, ends with the node deciding a height above that block
(`accepted_sync_takes_effect`), since commits inside the round can only move the height further
(`newRound_height_ge` / `drain_height_ge`).
What the Go runtime does with concurrent callers (UpdateState returning in bounded time while the
worker sits in a long SPI call, channel hand-over never blocking) is not proved: it is measured by the
stress phase of the `loops` suite.
-/
namespace LeanHelix.C14
open LeanHelix LeanHelix.Msg LeanHelix.Worker LeanHelix.Loops LeanHelix.Contexts

/-! ## heights never go back inside the worker -/

theorem handInTerm_height (w : WW) (t : Term.Node) (m : Message) : (handInTerm w t m).1.n.height = w.n.height := rfl

theorem newRound_height_ge : ∀ (fuel : Nat) (w : WW) (prevH : Nat) (c : Bool), w.n.height ≤ (newRound fuel w prevH c).n.height :=
  fun fuel w prevH c => (newRound_acts (G := False) fuel w prevH c nofun).frame.height

theorem drain_height_ge (fuel : Nat) (w : WW) (height : Nat) (ms : List Message) : w.n.height ≤ (drain fuel w height ms).n.height :=
  (drain_acts (G := False) fuel w height ms nofun nofun).frame.height

theorem newRound_starts (fuel : Nat) (w : WW) (prevH : Nat) (c : Bool) {id : Nat}
    (hctx : (Contexts.step w.n.reg (.for_ ⟨wrap64 (prevH + 1), 0⟩)).2 = .ctx id) (hlt : w.n.height < wrap64 (prevH + 1)) :
    wrap64 (prevH + 1) ≤ (newRound (fuel + 1) w prevH c).n.height := by
  unfold newRound
  dsimp only
  rw [hctx]
  dsimp only
  rw [if_neg (Nat.not_le.mpr hlt)]
  refine Nat.le_trans (Nat.le_of_eq ?_) (drain_height_ge fuel _ _ _)
  rw [(installTerm_spec _ _ _).height]

/-! ## the main loop's `UpdateState` case -/

theorem step_down (fuel : Nat) (n : LNode) (e : LEvent) (spi : List WSpi) (h : n.down = true) :
    Loops.step fuel n e spi = (n, []) := by
  unfold Loops.step; rw [if_pos h]

theorem step_sync (fuel : Nat) (n : LNode) (bh : Nat) (spi : List WSpi) (h : n.down = false) :
    Loops.step fuel n (.sync (some bh)) spi = syncStep fuel (gc n) bh spi := by
  unfold Loops.step; rw [if_neg (by rw [h]; exact Bool.false_ne_true)]; rfl

theorem regStep_w (n : LNode) (op : Contexts.Op) : (regStep n op).w.height = n.w.height ∧ (regStep n op).w.term = n.w.term
    ∧ (regStep n op).w.cache = n.w.cache ∧ (regStep n op).maxSync = n.maxSync ∧ (regStep n op).down = n.down := ⟨rfl, rfl, rfl, rfl, rfl⟩

theorem forIssued_w (n : LNode) (h v : Nat) : (forIssued n h v).1.w.height = n.w.height ∧ (forIssued n h v).1.w.term = n.w.term
    ∧ (forIssued n h v).1.w.cache = n.w.cache ∧ (forIssued n h v).1.maxSync = n.maxSync := ⟨rfl, rfl, rfl, rfl⟩

/-- the registry half of `syncStep`, the main loop's `UpdateState(bh)` case -/
def syncCtx (n : LNode) (bh : Nat) : LNode × Bool :=
  forIssued (regStep n (.cancelOlderThan ⟨wrap64 (bh + 1), 0⟩)) (wrap64 (bh + 1)) 0

theorem syncCtx_w (n : LNode) (bh : Nat) : (syncCtx n bh).1.w.height = n.w.height ∧ (syncCtx n bh).1.w.term = n.w.term
    ∧ (syncCtx n bh).1.w.cache = n.w.cache :=
  ⟨(forIssued_w _ _ _).1, (forIssued_w _ _ _).2.1, (forIssued_w _ _ _).2.2.1⟩

theorem syncStep_cases (fuel : Nat) (n : LNode) (bh : Nat) (spi : List WSpi) :
    (alreadySynced n bh = true ∧ syncStep fuel n bh spi = (n, [])) ∨
    (alreadySynced n bh = false ∧ (syncCtx n bh).2 = false ∧ syncStep fuel n bh spi = ((syncCtx n bh).1, [])) ∨
    (alreadySynced n bh = false ∧ (syncCtx n bh).2 = true ∧ syncStep fuel n bh spi =
      ({ (syncCtx n bh).1 with w := (updateState fuel { n := (syncCtx n bh).1.w, spi := spi } bh).n, maxSync := some bh },
       (updateState fuel { n := (syncCtx n bh).1.w, spi := spi } bh).outs)) := by
  unfold syncStep syncCtx
  split
  · exact .inl ⟨‹_›, rfl⟩
  · have h : alreadySynced n bh = false := Bool.eq_false_iff.mpr ‹_›
    dsimp only
    generalize forIssued (regStep n (.cancelOlderThan ⟨wrap64 (bh + 1), 0⟩)) (wrap64 (bh + 1)) 0 = r
    obtain ⟨m, ok⟩ := r
    cases ok
    · exact .inr (.inl ⟨h, rfl, rfl⟩)
    · exact .inr (.inr ⟨h, rfl, rfl⟩)

/-! ## stale syncs -/

theorem updateState_stale (fuel : Nat) (w : WW) (bh : Nat) (h : bh < w.n.height) : updateState fuel w bh = w :=
  if_neg (Nat.not_le.mpr h)

theorem syncStep_stale (fuel : Nat) (n : LNode) (bh : Nat) (spi : List WSpi) (h : bh < n.w.height) :
    (syncStep fuel n bh spi).2 = [] ∧ (syncStep fuel n bh spi).1.w.height = n.w.height
    ∧ (syncStep fuel n bh spi).1.w.term = n.w.term ∧ (syncStep fuel n bh spi).1.w.cache = n.w.cache := by
  obtain ⟨e1, e2, e3⟩ := syncCtx_w n bh
  rcases syncStep_cases fuel n bh spi with ⟨_, e⟩ | ⟨_, _, e⟩ | ⟨_, _, e⟩ <;> rw [e]
  · exact ⟨rfl, rfl, rfl, rfl⟩
  · exact ⟨rfl, e1, e2, e3⟩
  · -- forwarded: the worker ignores a block below its height
    rw [updateState_stale fuel { n := (syncCtx n bh).1.w, spi := spi } bh (e1 ▸ h)]
    exact ⟨rfl, e1, e2, e3⟩

/-- **a sync below the height being decided changes nothing**: no effect is emitted, and height,
term and cache are exactly as before (the main loop may note the sync and move registry
bookkeeping, the worker ignores the block) -/
theorem stale_sync_changes_nothing (fuel : Nat) (n : LNode) (bh : Nat) (spi : List WSpi)
    (hstale : bh < n.w.height) :
    (Loops.step fuel n (.sync (some bh)) spi).2 = []
    ∧ (Loops.step fuel n (.sync (some bh)) spi).1.w.height = n.w.height
    ∧ (Loops.step fuel n (.sync (some bh)) spi).1.w.term = n.w.term
    ∧ (Loops.step fuel n (.sync (some bh)) spi).1.w.cache = n.w.cache := by
  cases hd : n.down with
  | true => rw [step_down _ _ _ _ hd]; exact ⟨rfl, rfl, rfl, rfl⟩
  | false => rw [step_sync _ _ _ _ hd]; exact syncStep_stale fuel (gc n) bh spi hstale

/-! ## never first leader after a sync -/

/-- the round a sync enters is started with `canBeFirstLeader = false`: the worker passes `false` to
`onNewConsensusRound`; only the commit path passes `true` (also for a round that a commit inside the
sync's cache drain starts) -/
theorem sync_passes_false (fuel : Nat) (w : WW) (bh : Nat) :
    updateState fuel w bh = (if bh ≥ w.n.height then newRound fuel w bh false else w) := rfl

/-- a term started with `canBeFirstLeader = false` above height 1 sends nothing and asks the
consumer for nothing: it only arms the election timer -/
theorem no_first_proposal_after_sync (w : Term.W) (hh : w.n.cfg.height > 1) :
    ∀ o ∈ (Term.startTerm w false).outs, o ∈ w.outs ∨ ∃ h v, o = .registerElection h v := by
  intro o ho
  rcases Term.startTerm_cases w false with ⟨_, e⟩ | ⟨_, ⟨_, e⟩ | ⟨hn, _⟩⟩
  · rw [e] at ho; exact .inl ho
  · rw [e] at ho
    exact (List.mem_append.mp ho).imp_right fun h => ⟨_, _, List.mem_singleton.mp h⟩
  · exact absurd ⟨hh, rfl⟩ hn

/-! ## an accepted sync takes effect -/

theorem forIssued_ok (n : LNode) (h v : Nat) (hr : C15.Ready n.w.reg ⟨h, v⟩) : (forIssued n h v).2 = true := by
  obtain ⟨id, hid⟩ := hr.ctx
  show (match (Contexts.step n.w.reg (.for_ ⟨h, v⟩)).2 with | .ctx _ => true | _ => false) = true
  rw [hid]

/-- **After `UpdateState(block)` for a block at or above the height being decided, the node ends up
deciding a height above that block** — provided the registry is live (not shut down), has cancelled
nothing beyond the node's height (`hwm`, the `CancelOlderThan` watermark), the main loop has not already
seen a sync at or above the block (`hnew`) and the next height does not wrap (`hfit`); whatever the SPI
answers and the future cache hold. -/
theorem accepted_sync_takes_effect (fuel : Nat) (n : LNode) (bh : Nat) (spi : List WSpi)
    (hup : n.down = false) (hlive : n.w.reg.shutdown = false)
    (hnew : ∀ ms, n.maxSync = some ms → ms < bh) (hge : n.w.height ≤ bh) (hfit : bh + 1 < U64)
    (hwm : ∀ wm, n.w.reg.watermark = some wm → wm.height ≤ n.w.height) :
    bh < (Loops.step (fuel + 1) n (.sync (some bh)) spi).1.w.height := by
  have hw : wrap64 (bh + 1) = bh + 1 := wrap64_of_lt hfit
  -- the round after `bh` is ahead of the watermark, of the node's height and of itself: its context is handed out,
  -- to the main loop and again to the worker
  have h0 : C15.Ready n.w.reg ⟨bh + 1, 0⟩ := ⟨hlive, fun ⟨wm, e, hold⟩ => by
    have := hwm wm e
    rw [C15.olderThan_iff] at hold; dsimp only at hold; omega⟩
  have h1 : C15.Ready (regStep (gc n) (.cancelOlderThan ⟨bh + 1, 0⟩)).w.reg ⟨bh + 1, 0⟩ :=
    (h0.cancel (x := ⟨n.w.height, 0⟩) (by rw [Bool.eq_false_iff, Ne, C15.olderThan_iff]; dsimp only; omega)).cancel
      (by rw [Bool.eq_false_iff, Ne, C15.olderThan_iff]; dsimp only; omega)
  have hms : alreadySynced (gc n) bh = false := by
    show alreadySynced n bh = false
    unfold alreadySynced
    cases hm : n.maxSync with
    | none => rfl
    | some ms => exact decide_eq_false (Nat.not_le.mpr (hnew ms hm))
  rw [step_sync _ _ _ _ hup]
  rcases syncStep_cases (fuel + 1) (gc n) bh spi with ⟨ha, _⟩ | ⟨_, hk, _⟩ | ⟨_, _, e⟩
  · rw [hms] at ha; cases ha
  · unfold syncCtx at hk
    rw [hw, forIssued_ok _ _ _ h1] at hk; cases hk
  · have eh : (syncCtx (gc n) bh).1.w.height = n.w.height := (syncCtx_w (gc n) bh).1
    rw [e, sync_passes_false, if_pos (show bh ≥ (syncCtx (gc n) bh).1.w.height by rw [eh]; exact hge)]
    obtain ⟨id, hid⟩ := (h1.for_ ⟨bh + 1, 0⟩).ctx
    have := newRound_starts fuel { n := (syncCtx (gc n) bh).1.w, spi := spi } bh false (id := id)
      (by unfold syncCtx; rw [hw]; exact hid)
      (by show (syncCtx (gc n) bh).1.w.height < _; rw [hw, eh]; exact Nat.lt_succ_of_le hge)
    rw [hw] at this
    exact this

end LeanHelix.C14
