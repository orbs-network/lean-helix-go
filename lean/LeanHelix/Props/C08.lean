import LeanHelix.Lemmas.Weights
import LeanHelix.Lemmas.TermHandlers
/-!
# C08 — Only authentic, in-committee, role- and height-correct messages change state

For every node state `w` (any storage content, any view, any registry state, any pending SPI
answers) and every message: if the message fails one of the conditions the property lists
(`PrepareAuthentic`, `CommitAuthentic`, `PreprepareAuthentic` in `Lemmas/TermHandlers.lean`, `ViewChangeAuthentic`
here), the handler returns `w` itself — nothing is stored, counted, sent, no view changes, no SPI is called.
`sender.ok` is the answer of `VerifyConsensusMessage` for the signed header under the claimed sender.
The instance / height / own-message part is the worker's filter (`Worker.deliver`:
`filtered_messages_change_nothing` in `Props/C08Worker.lean`).
-/
namespace LeanHelix.C08
open LeanHelix LeanHelix.Msg LeanHelix.Term

theorem prepare_ignored_unless_authentic (w : Term.W) (pm : PMsg) (h : ¬ PrepareAuthentic w.n pm) :
    handlePrepare w pm = w :=
  (handlePrepare_cases w pm).elim (·.2) (fun c => absurd c.1 h)

theorem commit_ignored_unless_authentic (w : Term.W) (cm : CMsg) (h : ¬ CommitAuthentic w.n cm) :
    handleCommit w cm = w :=
  (handleCommit_cases w cm).elim (·.2) (fun c => absurd c.1 h)

theorem preprepare_ignored_unless_authentic (w : Term.W) (ppm : PPMsg) (h : ¬ PreprepareAuthentic w.n ppm) :
    handlePrePrepare w ppm = w :=
  (handlePrePrepare_cases w ppm).elim (·.2) (fun c => absurd c.1 h)

/-- the sender-side and addressing conditions of a VIEW_CHANGE -/
def ViewChangeAuthentic (n : Node) (vcm : VCMsg) : Prop :=
  isLeader n.cfg n.cfg.me vcm.c.header.view = true                -- addressed to this node as leader of that view
  ∧ ¬ n.view > vcm.c.header.view                                   -- not stale
  ∧ vcm.c.header.mtype = tVC ∧ vcm.c.header.inst = n.cfg.inst
  ∧ isMember n.cfg vcm.c.sender.id = true ∧ vcm.c.sender.ok = true
  ∧ validatePreparedProof n.cfg n.cfg.height vcm.c.header.view vcm.c.header.proof = true

theorem viewchange_ignored_unless_authentic (w : Term.W) (vcm : VCMsg) (h : ¬ ViewChangeAuthentic w.n vcm) :
    handleViewChange w vcm = w := by
  rcases handleViewChange_cases w vcm with c | ⟨⟨h1, h2, h3, _⟩, _⟩
  · exact c.2
  · obtain ⟨a, b, c, d, _, f⟩ := (isViewChangeValid_iff _ _).mp h3
    exact absurd ⟨h1, Nat.not_lt.mpr h2, a, b, c, d, f⟩ h

/-- a vote whose proof arrives without its block, or with a block that does not match the proven
hash, is ignored as well -/
theorem viewchange_ignored_if_block_mismatch (w : Term.W) (vcm : VCMsg)
    (h : (vcm.block.isNone ∧ vcm.c.header.proof.isSome) ∨
         (vcm.block.isSome ∧ commitmentOk vcm.block (proofHash vcm.c.header.proof) = false)) :
    handleViewChange w vcm = w := by
  rcases handleViewChange_cases w vcm with c | ⟨⟨_, _, _, h4, h5⟩, _⟩
  · exact c.2
  · rcases h with h | ⟨a, b⟩
    · exact absurd h h4
    · rw [h5 a] at b; cases b

/-! ## what a prepared proof must show to count -/

/-- **A prepared proof counts only if it shows valid signatures over one (height, earlier view,
hash) by that view's leader and by distinct other committee members together reaching quorum
weight.**  (`isViewChangeValid` adds: PREPREPARE / PREPARE typed refs of this instance.) -/
theorem proof_counts_only_if_valid (c : Cfg) (h v : Nat) (p : Proof)
    (hv : validatePreparedProof c h v (some p) = true) :
    p.ppRef.height = h ∧ p.ppRef.view < v
    ∧ p.pRef.hash = p.ppRef.hash ∧ p.pRef.height = p.ppRef.height ∧ p.pRef.view = p.ppRef.view
    ∧ p.ppSender.ok = true ∧ leaderId c p.ppRef.view = p.ppSender.id
    ∧ (∀ s ∈ p.pSenders, s.ok = true ∧ s.id ≠ p.ppSender.id ∧ isMember c s.id = true)
    ∧ (p.pSenders.map (·.id)).Nodup
    ∧ (Quorum.isQuorum (p.pSenders.map (·.id) ++ [p.ppSender.id]) c.members).1 = true := by
  obtain ⟨a, b, q, d, e, f, g, i, j, k⟩ := (validatePreparedProof_some c h v p).mp hv
  exact ⟨a, b, f, g, i, d, e, j, k, q⟩

/-- in weights: the signers of an accepted proof hold at least the quorum weight Q = W - f -/
theorem proof_signers_reach_quorum (c : Cfg) (h v : Nat) (p : Proof)
    (hW1 : 1 ≤ LeanHelix.W c.members) (hW2 : LeanHelix.W c.members < U64)
    (hv : validatePreparedProof c h v (some p) = true) :
    Q c.members ≤ wt c.members (fun i => (p.pSenders.map (·.id) ++ [p.ppSender.id]).contains i) := by
  have hq := (proof_counts_only_if_valid c h v p hv).2.2.2.2.2.2.2.2.2
  simp only [Quorum.isQuorum, decide_eq_true_eq, ge_iff_le] at hq
  rw [calcQuorumWeight_eq _ hW1 hW2, subsetWeight_eq _ _ hW2] at hq
  exact hq

/-! ## non-vacuity: an authentic PREPARE is stored; with an outsider as sender it is ignored -/
def exCfg : Cfg := ⟨10, 7, 1, [⟨10, 1⟩, ⟨11, 1⟩, ⟨12, 1⟩, ⟨13, 1⟩]⟩
def exW : Term.W := { n := { cfg := exCfg } }
def exPrepare : PMsg := ⟨⟨tP, 7, 1, 0, 99⟩, ⟨11, true⟩⟩
example : PrepareAuthentic exW.n exPrepare := by unfold PrepareAuthentic; decide
example : (handlePrepare exW exPrepare).n.store.prepares = [exPrepare] := by decide
example : handlePrepare exW { exPrepare with sender := ⟨55, true⟩ } = exW :=
  prepare_ignored_unless_authentic _ _ (by unfold PrepareAuthentic; decide)

end LeanHelix.C08
