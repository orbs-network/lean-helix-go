import LeanHelix.Model.Worker
import LeanHelix.Lemmas.TermCalls
import LeanHelix.Props.C07
/-!
# C09 — View change carries the lock: the highest prepared block is re-proposed

Theorems about the producer side (`Term.election`, `Term.onElectedByViewChange`,
`Term.handleViewChange`) for every node state: what the vote sent on timeout carries (`timeout_vote`,
`voteOnTimeout_proof`, `extractProof_spec`), which votes are counted (`viewchange_counted_only_with_matching_block`),
what the NEW_VIEW built from them proposes (`elected_newview_shape`).
-/
namespace LeanHelix.C09
open LeanHelix LeanHelix.Msg LeanHelix.Term

/-! ## votes that get counted -/

/-- **A VIEW_CHANGE has an effect (is stored, counted) only if it does not carry a proof without its block, and an
attached block commits to the proven hash.**  Hence among counted votes "has a block" and "has a proof"
coincide (`counted_vote_block_iff_proof`). -/
theorem viewchange_counted_only_with_matching_block (w : Term.W) (vcm : VCMsg)
    (h : handleViewChange w vcm ≠ w) :
    ¬ (vcm.block.isNone = true ∧ vcm.c.header.proof.isSome = true)
    ∧ (vcm.block.isSome = true → commitmentOk vcm.block (proofHash vcm.c.header.proof) = true) :=
  (handleViewChange_cases w vcm).elim (fun c => absurd c.2 h) (·.1.2.2.2)

/-- `hempty`: a block never commits to the empty byte string, the proven hash of a vote without proof (consumer
contract; in the network model part of the gate) -/
theorem counted_vote_block_iff_proof (w : Term.W) (vcm : VCMsg) (h : handleViewChange w vcm ≠ w)
    (hempty : ∀ b : Block, vcm.block = some b → b.hash ≠ emptyBytes) :
    vcm.block.isSome = vcm.c.header.proof.isSome :=
  (handleViewChange_cases w vcm).elim (fun c => absurd c.2 h) (·.1.2.2.block_iff_proof hempty)

/-! ## the new leader's NEW_VIEW -/

/-- the shape of every NEW_VIEW the election path can send, given the votes `vcs` it counted -/
def NewViewShape (view : Nat) (vcs : List VCMsg) (o : Out) : Prop :=
  ∀ rs nv, o = .send rs (.newView nv) →
    nv.header.view = view
    ∧ nv.header.votes = vcs.map (·.c)                           -- embeds exactly the counted votes
    ∧ nv.pp.header.view = view
    ∧ (match latestBlockFromVCs vcs with
       | some (b, hash) => nv.block = some b ∧ nv.pp.header.hash = hash   -- re-proposes the highest prepared block
       | none => ∃ b, nv.block = some b ∧ nv.pp.header.hash = b.hash)     -- fresh proposal only if no vote carries one

theorem newViewShape_benign (view : Nat) (vcs : List VCMsg) : Benign (NewViewShape view vcs) :=
  ⟨fun _ _ _ _ h => (by cases h), fun _ _ _ h => (by cases h), fun _ _ _ _ _ h => (by cases h), fun _ _ _ h => (by cases h)⟩

/-- **The NEW_VIEW a node sends on being elected embeds exactly the votes it counted and proposes
the block of a vote whose prepared proof has the highest view among the votes that carry a block, with the hash that
proof certifies; it proposes a fresh block only if no vote carries a block.** -/
theorem elected_newview_shape (w : Term.W) (view : Nat) (vcs : List VCMsg) :
    Appends (NewViewShape view vcs) w (onElectedByViewChange w view vcs) := by
  refine onElectedByViewChange_appends' (newViewShape_benign view vcs) w view vcs (fun b hash hsel rs nv hnv => ?_)
  simp only [Out.send.injEq, Message.newView.injEq] at hnv
  obtain ⟨_, rfl⟩ := hnv
  refine ⟨rfl, rfl, rfl, ?_⟩
  rcases hsel with hl | ⟨hl, rfl⟩ <;> rw [hl]
  · exact ⟨rfl, rfl⟩
  · exact ⟨b, rfl, rfl⟩

/-! ## the vote sent on timeout -/

/-- **On timeout the node moves to the next view, votes for it and sends that vote to the next
view's leader (or counts it itself when it is that leader).**  The vote is `voteOnTimeout`: it carries the proof
extracted for the view the node is prepared in and the stored proposal's block (`voteOnTimeout_proof`,
`extractProof_spec`).  `hcur`: the trigger is for the node's current (height, view), any other is ignored; `hinit`:
the view counter does not wrap around 2^64 (`SetView` refuses to go back). -/
theorem timeout_vote (w : Term.W) (h v : Nat) (hcur : h = w.n.cfg.height ∧ v = w.n.view)
    (hinit : ¬ w.n.view > wrap64 (w.n.view + 1)) :
    let nv := wrap64 (w.n.view + 1)
    let w1 : Term.W := { w with n := { w.n with view := nv } }.emit (.registerElection w.n.cfg.height nv)
    election w h v =
      if isLeader w1.n.cfg w1.n.cfg.me nv then
        checkElected { w1 with n := { w1.n with store := w1.n.store.storeVC (voteOnTimeout w1.n) } } h nv
      else w1.emit (.send [leaderId w1.n.cfg nv] (.viewChange (voteOnTimeout w1.n))) := by
  intro nv w1
  rcases election_cases w h v with ⟨hno, _⟩ | ⟨_, _, _, ⟨hl, e⟩ | ⟨hl, e⟩⟩
  · exact (hno.elim (· hcur.1) (·.elim (· hcur.2) hinit)).elim
  · rw [e, if_pos (show isLeader w1.n.cfg w1.n.cfg.me nv = true from hl)]; rfl
  · rw [e, if_neg (show ¬ isLeader w1.n.cfg w1.n.cfg.me nv = true by rw [show isLeader w1.n.cfg w1.n.cfg.me nv = false from hl]; exact Bool.false_ne_true)]; rfl

/-- the proof inside that vote is for exactly the prepared view, built from the stored proposal of
that view and the stored PREPAREs for its hash, whose senders together with the proposer reach quorum -/
theorem extractProof_spec (n : Node) (pv : Nat) (p : Proof) (b : Option Block)
    (h : extractProof n pv = some (p, b)) :
    ∃ ppm, n.store.getPP n.cfg.height pv = some ppm ∧ b = ppm.block
      ∧ p.ppRef.view = ppm.c.header.view ∧ p.ppRef.hash = ppm.c.header.hash ∧ p.ppSender = ppm.c.sender
      ∧ p.pRef.hash = ppm.c.header.hash
      ∧ p.pSenders = (n.store.getPrepares n.cfg.height pv ppm.c.header.hash).map (·.sender)
      ∧ isQuorum n.cfg (p.pSenders.map (·.id) ++ [p.ppSender.id]) = true := by
  obtain ⟨ppm, p0, ps, hg, hps, hq, rfl, rfl⟩ := extractProof_eq_some.mp h
  refine ⟨ppm, hg, rfl, rfl, rfl, rfl, ?_, by rw [hps], by simpa [List.map_map, Function.comp_def] using hq⟩
  -- the first stored PREPARE for that hash has that hash
  exact (mem_getPrepares.mp (show p0 ∈ n.store.getPrepares n.cfg.height pv ppm.c.header.hash by
    rw [hps]; exact List.mem_cons_self ..)).2.2.2

/-- a proof inside the timeout vote was extracted for the prepared view -/
theorem voteOnTimeout_proof (n : Node) (p : Proof) (hp : (voteOnTimeout n).c.header.proof = some p) :
    ∃ pv b, n.prepared = some pv ∧ extractProof n pv = some (p, b) := by
  unfold voteOnTimeout at hp
  cases hpr : n.prepared with
  | none => simp [hpr] at hp
  | some pv =>
    cases hx : extractProof n pv with
    | none => simp [hpr, hx] at hp
    | some pb =>
      simp only [hpr, hx, Option.map_some, Option.some.injEq] at hp
      exact ⟨pv, pb.2, rfl, by rw [← hp, hx]⟩

end LeanHelix.C09
