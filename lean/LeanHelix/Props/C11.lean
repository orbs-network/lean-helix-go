import LeanHelix.Props.C09
import LeanHelix.Props.C04
/-!
# C11 — Whatever a correct node emits, correct peers in a matching state accept

Node-level theorems over the Term model.  "Peer" is any node state with the same configuration
(instance, height, ordered committee) — its own log, view and flags are arbitrary.

PREPARE / COMMIT: one that meets the C08 conditions is in the peer's log afterwards (first-wins: or an earlier one
with the same key is) — `authentic_prepare_is_counted`, `authentic_commit_is_counted`; the one a correct node creates
meets them at every peer (for the PREPARE: whose view is not higher) — `own_prepare_is_authentic_for_peers`,
`own_commit_is_authentic_for_peers`.

VIEW_CHANGE: the log invariant `PreparesOK` — every stored PREPARE is PREPARE-typed, from a committee member, verifies,
is not from the leader of its view (or is the node's own), and no two share (height, view, hash, sender): whatever
Byzantine members and outsiders sent — is kept by every event (`prepares_ok_step`).  Therefore the VIEW_CHANGE a
correct node builds on timeout — its proof is extracted from that log — passes `isViewChangeValid` at the correct
leader it is addressed to (`own_vote_is_valid_for_peers`): **no accepted input can turn the node's own vote into
something a correct leader rejects**.  The hypotheses about the log it keeps are invariants of the worker:
`WorkerInvariants.reachable_own_vote_valid`.

The NEW_VIEW case is `Props/C11NewView.lean`: a correct leader's NEW_VIEW is a valid certificate for every correct
peer with the same configuration (`elected_newview_is_valid_certificate`, `checkElected_newview_valid`), and a valid
certificate is adopted (`valid_newview_is_adopted`); over the network model it is `Props/C11Net.lean`.  On real nodes
the correspondence and the clone-free monitors `honest-newview-not-adopted` and `own-newview-invalid` watch the same.
-/
namespace LeanHelix.C11
open LeanHelix LeanHelix.Msg LeanHelix.Term

/-! ## PREPARE and COMMIT are counted -/

/-- **an authentic PREPARE is counted**: afterwards the peer's log holds a PREPARE with its (height, view, hash, sender) -/
theorem authentic_prepare_is_counted (w : Term.W) (pm : PMsg) (ha : C08.PrepareAuthentic w.n pm) :
    pkey pm ∈ (handlePrepare w pm).n.store.prepares.map pkey := by
  rcases handlePrepare_cases w pm with ⟨hn, _⟩ | ⟨_, e⟩
  · exact absurd ha hn
  · rw [e, checkPreparedLocally_prepares]; exact (storePrepare_firstWins _ _).has_key

def ckey := C03.ckey

/-- **an authentic COMMIT is counted** -/
theorem authentic_commit_is_counted (w : Term.W) (cm : CMsg) (ha : C08.CommitAuthentic w.n cm) :
    C03.ckey cm ∈ (handleCommit w cm).n.store.commits.map C03.ckey := by
  rcases handleCommit_cases w cm with ⟨hn, _⟩ | ⟨_, e⟩
  · exact absurd ha hn
  · rw [e, (checkCommitted_n _ _ _ _).2.1]; exact (storeCommit_firstWins _ _).has_key

/-- **the PREPARE a correct node creates meets the C08 conditions at every peer with the same committee whose view is
not higher** -/
theorem own_prepare_is_authentic_for_peers (sender peer : Node) (h v hash : Nat)
    (hcfg : peer.cfg.members = sender.cfg.members)
    (hme : isMember sender.cfg sender.cfg.me = true)
    (hnl : isLeader sender.cfg sender.cfg.me v = false)       -- C10.never_prepare_as_leader
    (hview : peer.view ≤ v) :
    C08.PrepareAuthentic peer (ownPrepare sender.cfg h v hash) := by
  refine ⟨rfl, ?_, rfl, by show ¬ v < peer.view; omega, ?_⟩
  · show isMember peer.cfg sender.cfg.me = true
    unfold isMember at hme ⊢; rw [hcfg]; exact hme
  · show isLeader peer.cfg sender.cfg.me v = false
    unfold isLeader leaderId at hnl ⊢; rw [hcfg]; exact hnl

theorem own_commit_is_authentic_for_peers (sender peer : Node) (h v hash : Nat)
    (hcfg : peer.cfg.members = sender.cfg.members)
    (hme : isMember sender.cfg sender.cfg.me = true) :
    C08.CommitAuthentic peer (ownCommit sender.cfg h v hash) := by
  refine ⟨rfl, rfl, ?_, rfl⟩
  show isMember peer.cfg sender.cfg.me = true
  unfold isMember at hme ⊢; rw [hcfg]; exact hme

/-! ## the log of PREPAREs stays clean -/

structure PreparesOK (n : Node) : Prop where
  auth : ∀ pm ∈ n.store.prepares, pm.header.mtype = tP ∧ isMember n.cfg pm.sender.id = true ∧ pm.sender.ok = true
      ∧ (isLeader n.cfg pm.sender.id pm.header.view = false ∨ pm.sender = mySig n.cfg)
  keys : (n.store.prepares.map pkey).Nodup

theorem preparesOK_init (c : Cfg) : PreparesOK { cfg := c } := ⟨(by intro pm h; cases h), List.nodup_nil⟩

theorem preparesOK_evolves {a b : Node} (hme : isMember a.cfg a.cfg.me = true) (h : Evolves J a b)
    (ha : PreparesOK a) : PreparesOK b where
  auth := fun pm hpm =>
    h.prepares (A := fun c pm => isMember c c.me = true →
        pm.header.mtype = tP ∧ isMember c pm.sender.id = true ∧ pm.sender.ok = true
        ∧ (isLeader c pm.sender.id pm.header.view = false ∨ pm.sender = mySig c))
      (fun n pm hj hm => by
        rcases hj with ⟨t, m, o, _, l⟩ | ⟨ho, _⟩
        · exact ⟨t, m, o, Or.inl l⟩
        · rw [ho]; exact ⟨rfl, hm, rfl, Or.inr rfl⟩)
      (fun pm hpm _ => ha.auth pm hpm) pm hpm (by rw [h.cfg]; exact hme)
  keys := h.prepares_keys ha.keys

/-- **`PreparesOK` is preserved by every event, whatever was received**, at a node that is a member of its own
committee (`hme`: its own PREPARE is logged too).  `hstart` is not needed: a start logs nothing. -/
theorem prepares_ok_step (n : Node) (e : Event) (spi : List Spi) (hme : isMember n.cfg n.cfg.me = true)
    (hstart : ∀ c, e = .start c → n.view = 0) (h : PreparesOK n) : PreparesOK (step n e spi).1 :=
  preparesOK_evolves hme (step_ev n e spi) h

/-! ## the node's own vote is valid for the leader it is sent to -/

/-- **The prepared proof a correct node puts into its VIEW_CHANGE passes validation at any correct
node with the same configuration** — whatever PREPAREs, proposals and COMMITs it accepted before:
its log invariants (`PreparesOK`, `C04.ProposalsOK`) are exactly the conditions the validator checks.
Hypotheses: the proof was extracted for a view below the vote's view (`hlt`); if the node holds an own PREPARE for
that view it did not lead it (`hown`: it sent PREPARE there, `C10.never_prepare_as_leader`). -/
theorem own_proof_passes_validation (n : Node) (pv voteView : Nat) (p : Proof) (b : Option Block)
    (hx : extractProof n pv = some (p, b))
    (hP : PreparesOK n) (hPP : C04.ProposalsOK n)
    (hlt : pv < voteView)
    (hown : ∀ pm ∈ n.store.prepares, pm.header.view = pv → pm.sender = mySig n.cfg → isLeader n.cfg n.cfg.me pv = false) :
    validatePreparedProof n.cfg n.cfg.height voteView (some p) = true := by
  obtain ⟨ppm, p0, ps, hg, hps, hq, rfl, _⟩ := extractProof_eq_some.mp hx
  obtain ⟨hppmem, hpph, hppv⟩ := getPP_spec hg
  obtain ⟨_, ppl, ppok⟩ := hPP ppm hppmem
  -- the proposer is the leader of pv
  have hlead : leaderId n.cfg pv = ppm.c.sender.id := by
    have : isLeader n.cfg ppm.c.sender.id ppm.c.header.view = true := ppl
    rw [hppv] at this
    simpa [isLeader] using this
  obtain ⟨_, q1, q2, q3⟩ := mem_getPrepares.mp (show p0 ∈ n.store.getPrepares n.cfg.height pv ppm.c.header.hash by
    rw [hps]; exact List.mem_cons_self ..)
  refine (validatePreparedProof_some _ _ _ _).mpr
    ⟨hpph, by rw [hppv]; exact hlt, ?_, ?_, by rw [hppv]; exact hlead, q3, by rw [q1, hpph], by rw [q2, hppv], ?_, ?_⟩
  · simpa [List.map_map, Function.comp_def] using hq
  · -- the proposer's signature verifies (or it is the node's own)
    rcases ppok with ok | own
    · exact ok
    · rw [own]; rfl
  · -- every PREPARE sender verifies, is a member, and is not the proposer
    intro s hs
    obtain ⟨pm, hpm, rfl⟩ := List.mem_map.mp hs
    obtain ⟨hin, _, r2, _⟩ := mem_getPrepares.mp (show pm ∈ n.store.getPrepares n.cfg.height pv ppm.c.header.hash by rw [hps]; exact hpm)
    obtain ⟨_, am, ao, al⟩ := hP.auth pm hin
    refine ⟨ao, ?_, am⟩
    intro heq
    rcases al with al | al
    · unfold isLeader at al; rw [r2, hlead, heq] at al; simp at al
    · have : pm.sender.id = n.cfg.me := by rw [al]; rfl
      have hnl := hown pm hin r2 al
      unfold isLeader at hnl; rw [hlead, ← heq, this] at hnl; simp at hnl
  · -- distinct senders
    have := getPrepares_ids_nodup n.store n.cfg.height pv ppm.c.header.hash hP.keys
    rw [hps] at this
    simpa [List.map_map, Function.comp_def] using this

/-- **The VIEW_CHANGE a correct node builds on timeout passes `isViewChangeValid` at every correct node with the
same configuration** (`n` is the node after it moved to the vote's view, `C09.timeout_vote`).  The leader it is
addressed to checks besides that the attached block matches the proof (`C08.viewchange_ignored_if_block_mismatch`):
that needs the consumer contract A2 and is `C11Net.net_sent_votes_checked`.  `hprep`: the prepared view is below the
vote's view and the node did not lead it if it holds an own PREPARE for it; `hinstPP`, `hinstP`: logged messages
carry this instance id (the worker's filter, C08). -/
theorem own_vote_is_valid_for_peers (n peer : Node) (hcfg : peer.cfg = n.cfg)
    (hme : isMember n.cfg n.cfg.me = true)
    (hP : PreparesOK n) (hPP : C04.ProposalsOK n)
    (hprep : ∀ pv, n.prepared = some pv → pv < n.view ∧
      (∀ pm ∈ n.store.prepares, pm.header.view = pv → pm.sender = mySig n.cfg → isLeader n.cfg n.cfg.me pv = false))
    (hinstPP : ∀ ppm ∈ n.store.pps, ppm.c.header.inst = n.cfg.inst)
    (hinstP : ∀ pm ∈ n.store.prepares, pm.header.inst = n.cfg.inst) :
    isViewChangeValid peer (C09.voteOnTimeout n).c = true := by
  rw [isViewChangeValid_cfg hcfg]
  refine (isViewChangeValid_iff _ _).mpr ⟨rfl, rfl, hme, rfl, ?_, ?_⟩
  · -- message types and instance ids inside the proof
    intro p hp
    obtain ⟨pv, b, _, hx⟩ := C09.voteOnTimeout_proof n p hp
    obtain ⟨ppm, p0, ps, hg, hps, _, rfl, _⟩ := extractProof_eq_some.mp hx
    have hp0 : p0 ∈ n.store.getPrepares n.cfg.height pv ppm.c.header.hash := by rw [hps]; exact List.mem_cons_self ..
    exact ⟨rfl, rfl, hinstPP ppm (getPP_spec hg).1, hinstP p0 (mem_getPrepares.mp hp0).1⟩
  · cases hp : (C09.voteOnTimeout n).c.header.proof with
    | none => rfl
    | some p =>
      obtain ⟨pv, b, hpr, hx⟩ := C09.voteOnTimeout_proof n p hp
      obtain ⟨hlt, hnl⟩ := hprep pv hpr
      exact own_proof_passes_validation n pv n.view p b hx hP hPP hlt hnl

/-! ## non-vacuity: a concrete prepared follower state meets `hme`, `hP`, `hPP`, `hprep`, and its vote carries a proof -/
def exCfg : Cfg := ⟨2, 7, 5, [⟨1, 1⟩, ⟨2, 1⟩, ⟨3, 1⟩, ⟨4, 1⟩]⟩
def exPP : PPMsg := ⟨⟨⟨tPP, 7, 5, 0, 99⟩, ⟨1, true⟩⟩, some ⟨9, 5, 99⟩⟩
def exStore : Store := { pps := [exPP], prepares := [⟨⟨tP, 7, 5, 0, 99⟩, ⟨2, true⟩⟩, ⟨⟨tP, 7, 5, 0, 99⟩, ⟨3, true⟩⟩] }
def exNode : Node := { cfg := exCfg, view := 1, prepared := some 0, store := exStore }

example : (extractProof exNode 0).isSome = true := by decide
example : isMember exNode.cfg exNode.cfg.me = true := by decide
example : PreparesOK exNode := by
  refine ⟨?_, by decide⟩
  intro pm hpm
  have : pm = ⟨⟨tP, 7, 5, 0, 99⟩, ⟨2, true⟩⟩ ∨ pm = ⟨⟨tP, 7, 5, 0, 99⟩, ⟨3, true⟩⟩ := by
    simpa [exNode, exStore] using hpm
  rcases this with rfl | rfl <;> exact ⟨rfl, by decide, rfl, Or.inl (by decide)⟩
example : C04.ProposalsOK exNode := by
  intro ppm hpp
  have : ppm = exPP := by simpa [exNode, exStore] using hpp
  subst this
  exact ⟨rfl, by decide, Or.inl rfl⟩
example : ∀ pv, exNode.prepared = some pv → pv < exNode.view ∧
    (∀ pm ∈ exNode.store.prepares, pm.header.view = pv → pm.sender = mySig exNode.cfg → isLeader exNode.cfg exNode.cfg.me pv = false) := by
  intro pv h
  have : pv = 0 := by simpa [exNode] using h.symm
  subst this; exact ⟨by decide, fun _ _ _ _ => by decide⟩
example : ((C09.voteOnTimeout exNode).c.header.proof).isSome = true := by decide

end LeanHelix.C11
