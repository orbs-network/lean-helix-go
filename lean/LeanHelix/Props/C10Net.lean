import LeanHelix.Props.C01Net
/-!
# C10 at the network level: what a correct member signs, over whole executions of the network

`Props/C10.lean`, `C10Leader`, `C10Once` prove single-valuedness per handler call and per term-model
execution of one node.  The network invariant `reach_inv` ties every statement-carrying effect of a
correct member to the valid ghost history, so the same facts hold for *everything a correct member has
ever emitted* in any execution of the network model, with any adversary:

* `net_one_accepted_hash_per_view` — all PREPREPAREs, NEW_VIEW proposals and PREPAREs a correct member
  sent for one view carry one hash (no equivocation as leader, one PREPARE per view, and the PREPARE is
  for the proposal it stored);
* `net_commit_only_with_certificate` — a COMMIT for (v, h) is sent only when a prepared certificate for
  exactly (v, h) exists (a quorum whose correct members accepted h in v) or a commit quorum for (v, h);
* `net_one_commit_hash_per_view` — all COMMITs a correct member sent for one view carry one hash.
-/
namespace LeanHelix.C10Net
open LeanHelix LeanHelix.Msg LeanHelix.Term LeanHelix.Spec LeanHelix.Net

variable {C : NetCfg}

theorem net_one_accepted_hash_per_view (hwf : WF C) {net : Net} (hr : Reach C net) {i : Nat} (hh : C.honest i = true)
    (hm : ∃ m ∈ C.ms, m.id = i) {o1 o2 : Out} (h1 : o1 ∈ net.outs i) (h2 : o2 ∈ net.outs i)
    {v ha hb : Nat} (s1 : stmtOf o1 = some (.acc v ha)) (s2 : stmtOf o2 = some (.acc v hb)) : ha = hb :=
  Spec.acc_unique (setting C hwf) (reach_inv hwf hr).valid
    (((reach_inv hwf hr).node hh hm).stmt h1 s1) (((reach_inv hwf hr).node hh hm).stmt h2 s2)

theorem net_commit_only_with_certificate (hwf : WF C) {net : Net} (hr : Reach C net) {i : Nat} (hh : C.honest i = true)
    (hm : ∃ m ∈ C.ms, m.id = i) {o : Out} (ho : o ∈ net.outs i) {v h : Nat} (s : stmtOf o = some (.cmt v h)) :
    validCert (setting C hwf) net.H v h ∨ commitQuorum (setting C hwf) net.H v h := by
  have hv := (reach_inv hwf hr).valid
  rcases ((reach_inv hwf hr).node hh hm).stmt ho s with hc | hc
  · exact Or.inl (Spec.com_cert (setting C hwf) hv hc)
  · exact Or.inr (Spec.lcom_commitQuorum (setting C hwf) hv hc)

theorem net_one_commit_hash_per_view (hwf : WF C) {net : Net} (hr : Reach C net) {i : Nat} (hh : C.honest i = true)
    (hm : ∃ m ∈ C.ms, m.id = i) {o1 o2 : Out} (h1 : o1 ∈ net.outs i) (h2 : o2 ∈ net.outs i)
    {v ha hb : Nat} (s1 : stmtOf o1 = some (.cmt v ha)) (s2 : stmtOf o2 = some (.cmt v hb)) : ha = hb := by
  have hv := (reach_inv hwf hr).valid
  have cert : ∀ {o h}, o ∈ net.outs i → stmtOf o = some (.cmt v h) → validCert (setting C hwf) net.H v h := fun ho s =>
    (net_commit_only_with_certificate hwf hr hh hm ho s).elim id (Spec.commitQuorum_cert _ hv)
  exact Spec.cert_unique (setting C hwf) hv (cert h1 s1) (cert h2 s2)

/-! ## order: nothing is accepted below a view the member has voted for -/

/-- **After a VIEW_CHANGE for view v' has gone out, the member sends no PREPREPARE, NEW_VIEW proposal or PREPARE for a
view below v'** — read off the order of its effects in any execution of the network model. -/
theorem net_no_acceptance_below_sent_vote (hwf : WF C) {net : Net} (hr : Reach C net) {i : Nat} (hh : C.honest i = true)
    (hm : ∃ m ∈ C.ms, m.id = i) {pre mid post : List Out} {o1 o2 : Out}
    (houts : net.outs i = pre ++ o1 :: (mid ++ o2 :: post))
    {v' v h : Nat} {pf : Option (Nat × Nat)}
    (s1 : stmtOf o1 = some (.vote v' pf)) (s2 : stmtOf o2 = some (.acc v h)) : v' ≤ v := by
  obtain ⟨T, hcore, herase⟩ := ((reach_inv hwf hr).node hh hm).core
  have hS : (net.outs i).filterMap stmtOf
      = pre.filterMap stmtOf ++ Stmt.vote v' pf :: (mid.filterMap stmtOf ++ Stmt.acc v h :: post.filterMap stmtOf) := by
    rw [houts]
    simp [List.filterMap_append, s1, s2]
  rw [herase] at hS
  obtain ⟨l1, x, l2, y, l3, eT, hx, hy⟩ := filterMap_order Term.erase hS
  -- x is the vote, y the acceptance; in `T` (newest first) y stands before x
  obtain rfl := erase_eq_vote hx
  obtain ⟨f, rfl⟩ := erase_eq_acc hy
  have hT : T = l3.reverse ++ .acc v h f :: (l2.reverse ++ .vote v' pf true :: l1.reverse) := by
    have := congrArg List.reverse eT
    rw [List.reverse_reverse] at this
    rw [this]
    simp [List.reverse_append, List.append_assoc]
  cases C01Local.localValid_suffix (A := l3.reverse) (hT ▸ hcore.ginv.valid) with
  | cons _ hj => exact hj.2.1 v' pf true (List.mem_append_right _ List.mem_cons_self)

end LeanHelix.C10Net
