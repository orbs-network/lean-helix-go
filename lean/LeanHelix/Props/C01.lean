import LeanHelix.Spec.Safety
import LeanHelix.Props.C10
/-!
# C01 — Agreement: no two correct nodes commit different blocks at one height

Three layers.  Abstract (`Spec/Safety.lean`, `Spec.agreement`): for every committee (any size, any weights with
W ≥ 1), every Byzantine set of weight ≤ f = ⌊(W-1)/3⌋ and every history of correct nodes' statements built
according to the local rules `Justified` (any length, any interleaving; Byzantine members are unconstrained and
appear only through the quorum predicates), all decisions are equal.  Node-local (`Props/C01Local.lean`,
`local_rules_hold`, `justified_of_local`): over whole executions of the term model the statements a node makes obey
the part `LocalJ` of every rule that concerns its own earlier statements, and `LocalJ` together with the certificate
part `Cert` is `Spec.Justified`.  Network (`Props/C01Net.lean`, `net_agreement`): the statement lists of N nodes
interleaved into one history and the certificate parts discharged from signature unforgeability, over the network of
term models of `Net/` with an adversary that may deliver any message the worker's filter lets through, as long as
every verifying signature of a correct member inside it matches a statement that member made.  On real nodes the
claim is exercised by the `node` suite (adversary library, agreement monitor).

Here: the abstract result restated, and the handler-level counterpart of the stand-alone-proposal disjunct of
`Justified` (the code accepts a bare PREPREPARE in a view above 0: known finding D5 of C07).
-/
namespace LeanHelix.C01
open LeanHelix LeanHelix.Spec LeanHelix.Msg LeanHelix.Term

/-- **Agreement** (abstract layer), restated: any two decisions in a rule-abiding history are equal. -/
theorem agreement (S : Setting) {H : List Ev} (hv : Valid S H) {a b ha hb : Nat}
    (da : Ev.dec a ha ∈ H) (db : Ev.dec b hb ∈ H) : ha = hb :=
  Spec.agreement S hv da db

theorem decided_value_was_accepted (S : Setting) {H : List Ev} (hv : Valid S H) {n h : Nat}
    (hd : Ev.dec n h ∈ H) : ∃ v, ∃ m ∈ S.ms, S.honest m.id = true ∧ Ev.acc m.id v h ∈ H :=
  Spec.decided_was_accepted_by_correct S hv hd

/-- **node-level counterpart of the stand-alone-proposal rule**: a node that holds a prepared
certificate (prepared in view pv, with the proposal stored for pv) ignores a bare PREPREPARE of a
later view whose hash differs from the hash it is prepared on — completely (nothing stored, sent,
no SPI call). -/
theorem bare_preprepare_respects_lock (w : Term.W) (ppm locked : PPMsg) (pv : Nat)
    (hprep : w.n.prepared = some pv) (hlater : ppm.c.header.view > pv)
    (hlock : w.n.store.getPP ppm.c.header.height pv = some locked)
    (hdiff : locked.c.header.hash ≠ ppm.c.header.hash) :
    handlePrePrepare w ppm = w := by
  have hl : lockConflict w.n ppm = true := (lockConflict_iff _ _).mpr ⟨pv, locked, hprep, hlater, hlock, hdiff⟩
  rcases handlePrePrepare_cases w ppm with ⟨_, e⟩ | ⟨_, ⟨_, e⟩ | ⟨hf, _⟩⟩
  · exact e
  · exact e
  · rw [hl] at hf; cases hf

/-! ## non-vacuity: a rule-abiding history of a 4-member committee in which two members decide -/
def exS : Setting := ⟨[⟨0, 1⟩, ⟨1, 1⟩, ⟨2, 1⟩, ⟨3, 1⟩], fun i => i != 3, by decide, by decide⟩

open Ev in
/-- members 0, 1, 2 accept hash 7 in view 0, become prepared, commit; members 0 and 1 decide (newest first) -/
def exH : List Ev :=
  [dec 1 7, dec 0 7, com 2 0 7, com 1 0 7, com 0 0 7, acc 2 0 7, acc 1 0 7, acc 0 0 7]

private theorem exQ : Q exS.ms ≤ wt exS.ms (fun i => i != 3) := by decide

open Ev in
example : Valid exS exH := by
  have hcert : ∀ H : List Ev, acc 0 0 7 ∈ H → acc 1 0 7 ∈ H → acc 2 0 7 ∈ H → validCert exS H 0 7 := by
    intro H h0 h1 h2
    refine ⟨fun i => i != 3, exQ, ?_⟩
    intro m hm hp _
    simp [exS] at hm
    rcases hm with rfl | rfl | rfl | rfl
    · exact h0
    · exact h1
    · exact h2
    · simp at hp
  have hcq : ∀ H : List Ev, com 0 0 7 ∈ H → com 1 0 7 ∈ H → com 2 0 7 ∈ H → commitQuorum exS H 0 7 := by
    intro H h0 h1 h2
    refine ⟨fun i => i != 3, exQ, ?_⟩
    intro m hm hp _
    simp [exS] at hm
    rcases hm with rfl | rfl | rfl | rfl
    · exact Or.inl h0
    · exact Or.inl h1
    · exact Or.inl h2
    · simp at hp
  unfold exH
  refine .cons (.cons (.cons (.cons (.cons (.cons (.cons (.cons .nil ?a0) ?a1) ?a2) ?c0) ?c1) ?c2) ?d0) ?d1
  case a0 => exact ⟨(by intro h hh; cases hh), (by intro v pf hh; cases hh), (by intro hh; cases hh)⟩
  case a1 => exact ⟨(by intro h hh; simp at hh), (by intro v pf hh; simp at hh), (by intro hh; cases hh)⟩
  case a2 => exact ⟨(by intro h hh; simp at hh), (by intro v pf hh; simp at hh), (by intro hh; cases hh)⟩
  case c0 => exact ⟨(by simp), hcert _ (by simp) (by simp) (by simp), (by intro v pf hh; simp at hh), (by intro v h hh; simp at hh; omega)⟩
  case c1 => exact ⟨(by simp), hcert _ (by simp) (by simp) (by simp), (by intro v pf hh; simp at hh), (by intro v h hh; simp at hh; omega)⟩
  case c2 => exact ⟨(by simp), hcert _ (by simp) (by simp) (by simp), (by intro v pf hh; simp at hh), (by intro v h hh; simp at hh; omega)⟩
  case d0 => exact ⟨0, hcq _ (by simp) (by simp) (by simp)⟩
  case d1 => exact ⟨0, hcq _ (by simp) (by simp) (by simp)⟩

end LeanHelix.C01
