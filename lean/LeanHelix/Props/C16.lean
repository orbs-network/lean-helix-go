import LeanHelix.Model.Loops
import LeanHelix.Lemmas.TermHandlers
import LeanHelix.Props.C15Registry
/-!
# C16 — Shutdown is complete: loops end, nothing fires afterwards, nothing leaks

What Lean carries: the *logic* of shutdown.
* `cancel_effects`: cancelling shuts the context registry down for good (`registry_stays_down`), stops the election
  timer (iff a term exists), drops the term; afterwards every event is a no-op in the model.
* the race window — the worker may still be handling a queued item while the main loop has already
  exited and shut the registry down: with a shut-down registry no context is issued, hence no block is requested from
  the consumer (`shutdown_blocks_proposals`; so no fresh proposal is broadcast, `Props/C15Term.lean`), a PREPREPARE is
  not adopted (`shutdown_blocks_adoption`: no PREPARE, nothing stored), and no commit callback is invoked
  (`shutdown_blocks_commit`).  Not covered: the two paths that take no context — re-proposing a locked block in a
  NEW_VIEW, and adopting a NEW_VIEW whose votes carry a proof.
Goroutine exit, the latency of `WaitUntilShutdown`, leaks and "API calls return promptly" are
runtime facts; the `loops` suite measures them on the real runtime (serialised and stress phases).
-/
namespace LeanHelix.C16
open LeanHelix LeanHelix.Msg LeanHelix.Term LeanHelix.Contexts

theorem ctxFor_shutdown (w : Term.W) (h v : Nat) (hs : w.n.reg.shutdown = true) :
    (ctxFor w h v).2 = none ∧ (ctxFor w h v).1 = w := by
  unfold ctxFor Contexts.step
  simp [hs]

/-- with the registry shut down no block is requested from the consumer and none comes back to be proposed -/
theorem shutdown_blocks_proposals (w : Term.W) (h v : Nat) (hs : w.n.reg.shutdown = true) :
    askProposal w h v = (w, none) := by
  obtain ⟨hc, hw⟩ := ctxFor_shutdown w h v hs
  rcases askProposal_cases w h v with ⟨_, e⟩ | ⟨_, hid, _⟩
  · rw [e, hw]
  · cases hc.symm.trans hid

theorem askValidate_shutdown (w : Term.W) (h v : Nat) (b : Option Block) (hash : Nat) (hs : w.n.reg.shutdown = true) :
    askValidate w h v b hash = (w, false) := by
  obtain ⟨hc, hw⟩ := ctxFor_shutdown w h v hs
  rcases askValidate_cases w h v b hash with ⟨_, e⟩ | ⟨_, hid, _⟩
  · rw [e, hw]
  · cases hc.symm.trans hid

/-- with the registry shut down a PREPREPARE is not validated, hence not adopted: no PREPARE, nothing stored -/
theorem shutdown_blocks_adoption (w : Term.W) (ppm : PPMsg) (hs : w.n.reg.shutdown = true) :
    handlePrePrepare w ppm = w := by
  rcases handlePrePrepare_cases w ppm with ⟨_, e⟩ | ⟨_, ⟨_, e⟩ | ⟨_, ⟨_, e⟩ | ⟨hok, _⟩⟩⟩
  · exact e
  · exact e
  · rw [e, askValidate_shutdown _ _ _ _ _ hs]
  · rw [askValidate_shutdown _ _ _ _ _ hs] at hok; cases hok

/-- with the registry shut down the commit callback is never invoked -/
theorem shutdown_blocks_commit (w : Term.W) (h v hash : Nat) (hs : w.n.reg.shutdown = true) :
    checkCommitted w h v hash = w := by
  obtain ⟨hc, hw⟩ := ctxFor_shutdown w h maxView hs
  rcases checkCommitted_cases w h v hash with ⟨_, e⟩ | ⟨_, _, ⟨_, e⟩ | ⟨hid, _⟩⟩
  · exact e
  · rw [e, hw]
  · rw [hc] at hid; cases hid

open LeanHelix.Loops in
/-- **Cancelling a running node (`hup`) marks it down, shuts the registry down, drops the term, stops the election
timer iff there was a term, and afterwards every event is a no-op.** -/
theorem cancel_effects (fuel : Nat) (n : LNode) (spi : List Worker.WSpi) (hup : n.down = false) :
    let r := Loops.step fuel n .cancel spi
    r.1.down = true ∧ r.1.w.reg.shutdown = true ∧ r.1.w.term = none
    ∧ r.2 = (if n.w.term.isSome then [Worker.WOut.stopTimer] else [])
    ∧ ∀ e spi', Loops.step fuel r.1 e spi' = (r.1, []) := by
  intro r
  have hr : r = cancelStep (gc n) := by
    show Loops.step fuel n .cancel spi = _
    unfold Loops.step
    simp only [hup, Bool.false_eq_true, if_false]
  rw [hr]
  unfold cancelStep
  refine ⟨rfl, ?_, rfl, rfl, ?_⟩
  · show (Contexts.step (gc n).w.reg .shutdown).1.shutdown = true
    unfold Contexts.step; rfl
  · intro e spi'
    unfold Loops.step
    simp

/-- once shut down, the registry stays shut down whatever else is asked of it (C15) -/
theorem registry_stays_down (r : Reg) (ops : List Contexts.Op) (hs : r.shutdown = true) :
    (Contexts.run r ops).shutdown = true := (C15.shutdown_is_terminal r ops hs).1

end LeanHelix.C16
