import LeanHelix.Props.C17Once
/-!
# C17 — cached messages are delivered, once, in arrival order, when their height starts

The positive half of the future-cache property for the filter model (`Model/Filter.lean`): a future message
is appended at the end of its height's list and only a strictly higher height evicts (`push_appends`,
`push_keeps`); when the node starts height `h`, the messages cached for `h` go to the term of `h` in arrival
order and the entry of `h` is gone (`advance_delivers_cache`, from `drain_delivers_in_order`).

Proviso (documented interpretation of the property): the last two are for drains in which no delivered message
completes its round.  A cached message that completes its round makes the node move on; what is still
undelivered of that height is then dropped (it is a message of a lower height).  `drain_delivers_first` covers
the first step of that case: the first message of a drain is delivered whatever it does.
-/
namespace LeanHelix.C17
open LeanHelix LeanHelix.Filter

theorem cacheGet_nil (h : Nat) : cacheGet [] h = [] := rfl

/-! ## the list of a height under the cache operations -/

theorem cacheGet_filter (q : Nat × List FMsg → Bool) (c : List (Nat × List FMsg)) (k : Nat)
    (hq : ∀ p, p.1 = k → q p = true) : cacheGet (c.filter q) k = cacheGet c k := by
  induction c with
  | nil => rfl
  | cons p r ih =>
    rw [List.filter_cons, cacheGet_cons]
    split
    · rw [cacheGet_cons, ih]
    next hp => rw [ih, if_neg (fun e => hp (hq p e))]

theorem cacheGet_clearEarlier (c : List (Nat × List FMsg)) (h k : Nat) (hk : h ≤ k) :
    cacheGet (clearEarlier c h) k = cacheGet c k :=
  cacheGet_filter _ c k (fun p e => by simp only [Bool.not_eq_true', decide_eq_false_iff_not]; omega)

theorem cacheGet_cacheErase (c : List (Nat × List FMsg)) (h : Nat) : cacheGet (cacheErase c h) h = [] := by
  induction c with
  | nil => rfl
  | cons p r ih =>
    unfold cacheErase at *
    rw [List.filter_cons]
    split
    next hp => rw [cacheGet_cons, if_neg (by simpa using hp), ih]
    · exact ih

theorem cacheGet_map_addTo (c : List (Nat × List FMsg)) (h : Nat) (m : FMsg) (k : Nat) (hk : k ≠ h) :
    cacheGet (c.map (addTo h m)) k = cacheGet c k := by
  induction c with
  | nil => rfl
  | cons p r ih =>
    rw [List.map_cons, addTo_eq, cacheGet_cons, cacheGet_cons, ih]
    by_cases hp : p.1 = h
    · rw [if_neg (fun e => hk (e.symm.trans hp)), if_neg (fun e => hk (e.symm.trans hp))]
    · rw [if_neg hp]

theorem cacheAppend_get_self (c : List (Nat × List FMsg)) (h : Nat) (m : FMsg) :
    cacheGet (cacheAppend c h m) h = cacheGet c h ++ [m] := by
  induction c with
  | nil => exact (cacheGet_cons ..).trans (if_pos rfl)
  | cons p r ih =>
    rw [cacheAppend_cons, cacheGet_cons p r h]
    split
    next hp => rw [cacheGet_cons, if_pos hp]
    next hp => rw [cacheGet_cons, if_neg hp, ih]

theorem cacheAppend_get_other (c : List (Nat × List FMsg)) (h : Nat) (m : FMsg) (k : Nat) (hk : k ≠ h) :
    cacheGet (cacheAppend c h m) k = cacheGet c k := by
  induction c with
  | nil => exact (cacheGet_cons ..).trans (if_neg (Ne.symm hk))
  | cons p r ih =>
    rw [cacheAppend_cons, cacheGet_cons p r k]
    split
    next hp =>
      have hpk : p.1 ≠ k := fun e => hk (e.symm.trans hp)
      rw [cacheGet_cons, if_neg hpk, if_neg hpk, cacheGet_map_addTo _ _ _ _ hk]
    · rw [cacheGet_cons, ih]

/-- `hc` is the case distinction `pushToCache_cases` leaves -/
theorem cacheGet_kept {f : Filt} {m : FMsg} {c : List (Nat × List FMsg)}
    (hc : m.height = f.latest ∧ c = f.cache ∨ f.latest < m.height ∧ c = clearEarlier f.cache m.height)
    (k : Nat) (hk : m.height ≤ k) : cacheGet c k = cacheGet f.cache k := by
  rcases hc with ⟨_, rfl⟩ | ⟨_, rfl⟩
  · rfl
  · exact cacheGet_clearEarlier _ _ _ hk

/-- **arrival order**: a future message that enters the cache is put at the end of its height's list -/
theorem push_appends (f : Filt) (m : FMsg) (hge : f.latest ≤ m.height) :
    cacheGet (pushToCache f m).cache m.height = cacheGet f.cache m.height ++ [m] := by
  rcases pushToCache_cases f m with ⟨hlt, _⟩ | ⟨c, hc, e⟩
  · omega
  · rw [e]
    show cacheGet (cacheAppend c m.height m) m.height = _
    rw [cacheAppend_get_self, cacheGet_kept hc _ (Nat.le_refl _)]

/-- **no eviction without a higher height**: a cached height keeps its list when a future message of a
height not above the newest cached height arrives (for another height) -/
theorem push_keeps (f : Filt) (m : FMsg) (k : Nat) (hk : k ≠ m.height)
    (hle : m.height ≤ f.latest) : cacheGet (pushToCache f m).cache k = cacheGet f.cache k := by
  rcases pushToCache_cases f m with ⟨_, e⟩ | ⟨c, hc, e⟩
  · rw [e]
  · rw [e]
    show cacheGet (cacheAppend c m.height m) k = _
    rw [cacheAppend_get_other _ _ _ _ hk]
    rcases hc with ⟨_, rfl⟩ | ⟨hlt, _⟩
    · rfl
    · omega

/-- eviction is of lower heights only -/
theorem push_keeps_above (f : Filt) (m : FMsg) (k : Nat) (hk : m.height < k) :
    cacheGet (pushToCache f m).cache k = cacheGet f.cache k := by
  rcases pushToCache_cases f m with ⟨_, e⟩ | ⟨c, hc, e⟩
  · rw [e]
  · rw [e]
    show cacheGet (cacheAppend c m.height m) k = _
    rw [cacheAppend_get_other _ _ _ _ (by omega), cacheGet_kept hc _ (by omega)]

/-! ## the drain -/

theorem drain_cons_deliver (fuel : Nat) {f : Filt} {h t : Nat} {c : Bool} (m : FMsg) (rest : List FMsg)
    (hs : f.stateHeight = h) (hh : f.handler = some (t, c)) :
    drain (fuel + 1) f h (m :: rest) = drain fuel (deliver fuel f t c m) h rest := by
  rw [drain_cons, hh, if_neg (by simp [hs])]

/-- **in order, exactly once**: draining messages none of which completes the round (the term has
committed already, or no message makes it commit) hands every message to the installed term, in
order, and changes nothing but the delivery log -/
theorem drain_delivers_in_order : ∀ (msgs : List FMsg) (fuel : Nat) (f : Filt) (h : Nat) (c : Bool),
    msgs.length ≤ fuel → f.stateHeight = h → f.handler = some (h, c) →
    (∀ m ∈ msgs, m.script = 0 ∨ c = true) →
    drain fuel f h msgs = { f with log := f.log ++ msgs.map (fun m => (h, m)) } := by
  intro msgs
  induction msgs with
  | nil =>
    intro fuel f h c _ _ _ _
    cases fuel <;> simp [drain]
  | cons m rest ih =>
    intro fuel f h c hfuel hs hh hq
    cases fuel with
    | zero => simp at hfuel
    | succ fuel =>
      have hd : deliver fuel f h c m = logDelivery f h m := by
        unfold deliver
        rcases hq m (List.mem_cons_self ..) with h0 | hc
        · simp [h0]
        · simp [hc]
      rw [drain_cons_deliver fuel m rest hs hh, hd, ih fuel (logDelivery f h m) h c (by simp at hfuel; omega) hs hh
        (fun x hx => hq x (List.mem_cons_of_mem _ hx))]
      simp [logDelivery]

/-- relative to the drain of the same fuel, like `inv_advance`: inside `drain_log` that is the induction hypothesis -/
theorem advance_log {fuel : Nat} (hd : ∀ f h msgs, f.log <+: (drain fuel f h msgs).log) (f : Filt) (h : Nat) :
    f.log <+: (advance fuel f h).log := by
  unfold advance
  split
  · exact List.prefix_refl _
  · exact hd (startRound f h) h _

theorem deliver_log {fuel : Nat} (hd : ∀ f h msgs, f.log <+: (drain fuel f h msgs).log)
    (f : Filt) (t : Nat) (c : Bool) (m : FMsg) : f.log ++ [(t, m)] <+: (deliver fuel f t c m).log := by
  unfold deliver
  split
  · exact advance_log hd (markCommitted (logDelivery f t m) t) _
  · exact List.prefix_refl _

theorem drain_log (fuel : Nat) : ∀ (f : Filt) (h : Nat) (msgs : List FMsg), f.log <+: (drain fuel f h msgs).log := by
  induction fuel with
  | zero => intro f _ _; exact List.prefix_refl _
  | succ fuel ih =>
    intro f h msgs
    cases msgs with
    | nil => exact List.prefix_refl _
    | cons m rest =>
      rw [drain_cons]
      split
      · exact List.prefix_refl _
      split
      · exact ih f h rest
      next t c _ => exact (List.prefix_append ..).trans ((deliver_log ih f t c m).trans (ih _ h rest))

/-- the first message of a drain reaches the term, whether or not it completes the round -/
theorem drain_delivers_first (fuel : Nat) (f : Filt) (h : Nat) (c : Bool) (m : FMsg) (rest : List FMsg)
    (hs : f.stateHeight = h) (hh : f.handler = some (h, c)) :
    ∃ g, drain (fuel + 1) f h (m :: rest) = g ∧ (f.log ++ [(h, m)]) <+: g.log := by
  refine ⟨_, rfl, ?_⟩
  rw [drain_cons_deliver fuel m rest hs hh]
  exact (deliver_log (drain_log fuel) f h c m).trans (drain_log fuel _ h rest)

/-- **when a height starts, its cached messages are delivered in arrival order, exactly once** -/
theorem advance_delivers_cache (fuel : Nat) (f : Filt) (h : Nat) (hlt : f.stateHeight < h)
    (hfuel : (cacheGet f.cache h).length ≤ fuel) (hq : ∀ m ∈ cacheGet f.cache h, m.script = 0) :
    (advance fuel f h).log = f.log ++ (cacheGet f.cache h).map (fun m => (h, m))
    ∧ (advance fuel f h).stateHeight = h
    ∧ cacheGet (advance fuel f h).cache h = [] := by
  have hc : cacheGet (startRound f h).cache h = cacheGet f.cache h := cacheGet_clearEarlier _ _ _ (Nat.le_refl _)
  unfold advance
  rw [if_neg (by omega)]
  dsimp only
  rw [hc, drain_delivers_in_order (cacheGet f.cache h) fuel (startRound f h) h false hfuel rfl rfl
    (fun m hm => Or.inl (hq m hm))]
  exact ⟨rfl, rfl, cacheGet_cacheErase _ h⟩

/-! non-vacuity: two messages cached for height 2 in the order 11, 12 are delivered in that order when height 2 starts -/
def exF : Filt := { me := 9, inst := 1, stateHeight := 1, handler := some (1, false) }
def exM (u : Nat) : FMsg := ⟨u, 2, 1, 3, 0⟩
example : ((advance 10 (recv 10 (recv 10 exF (exM 11)) (exM 12)) 2).log.map (fun p => (p.1, p.2.uid))) = [(2, 11), (2, 12)] := by decide

end LeanHelix.C17
