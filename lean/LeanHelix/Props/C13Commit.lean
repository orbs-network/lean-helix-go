import LeanHelix.Props.C10Leader
/-!
# C13 (commit part) — a term invokes the commit callback at most once

Over every sequence of Term events and SPI answers: the in-committee commit callback (`.commit`
effect) is emitted only while `committed` is empty, and emitting it fills `committed`, which is never
emptied again; so a term commits at most once (`at_most_one_commit`).  The three facts are one equation,
with the latch read as a number: callbacks made + latch before = latch after (`CbOK`, `step_latch_eq`).
Together with `C13.round_heights_increase` (terms are created for strictly increasing heights, one per
height) no height is committed twice by the worker.
-/
namespace LeanHelix.C13
open LeanHelix LeanHelix.Msg LeanHelix.Term

def isCb : Out → Bool
  | .commit _ _ => true
  | _ => false

def cbCount (l : List Out) : Nat := (l.filter isCb).length

theorem cbCount_append (a b : List Out) : cbCount (a ++ b) = cbCount a + cbCount b := by
  unfold cbCount; rw [List.filter_append, List.length_append]

theorem cbCount_pos_iff {l : List Out} : 1 ≤ cbCount l ↔ ∃ b cs, Out.commit b cs ∈ l := by
  refine ⟨fun h => ?_, fun ⟨b, cs, h⟩ => List.length_pos_of_mem (List.mem_filter.mpr ⟨h, rfl⟩)⟩
  obtain ⟨o, ho⟩ := List.exists_mem_of_length_pos h
  obtain ⟨hm, hc⟩ := List.mem_filter.mp ho
  cases o with
  | commit b cs => exact ⟨b, cs, hm⟩
  | _ => cases hc

def NoCb (o : Out) : Prop := isCb o = false

theorem cbCount_noCb (l : List Out) (h : ∀ o ∈ l, NoCb o) : cbCount l = 0 := by
  unfold cbCount
  rw [List.length_eq_zero_iff, List.filter_eq_nil_iff]
  intro o ho
  have := h o ho
  unfold NoCb at this
  simp [this]

def latch (n : Node) : Nat := if n.committed.isSome then 1 else 0

theorem latch_le (n : Node) : latch n ≤ 1 := by unfold latch; split <;> omega

theorem latch_eq_one {n : Node} : latch n = 1 ↔ n.committed.isSome = true := by unfold latch; split <;> simp [*]

/-- the commit callbacks among the new effects are exactly what the latch goes up by: one callback when
`committed` is set, none otherwise, and `committed` is never emptied -/
def CbOK (w w' : Term.W) : Prop := ∃ l, w'.outs = w.outs ++ l ∧ cbCount l + latch w.n = latch w'.n

theorem CbOK.refl (w : Term.W) : CbOK w w := ⟨[], (List.append_nil _).symm, Nat.zero_add _⟩

theorem CbOK.trans {a b c : Term.W} (h1 : CbOK a b) (h2 : CbOK b c) : CbOK a c := by
  obtain ⟨l1, e1, c1⟩ := h1
  obtain ⟨l2, e2, c2⟩ := h2
  exact ⟨l1 ++ l2, by rw [e2, e1, List.append_assoc], by rw [cbCount_append]; omega⟩

theorem CbOK.mono {w w' : Term.W} (h : CbOK w w') (hc : w.n.committed.isSome = true) : w'.n.committed.isSome = true := by
  obtain ⟨l, _, c⟩ := h
  have := latch_le w'.n
  exact latch_eq_one.mp (by rw [latch_eq_one.mpr hc] at c; omega)

theorem CbOK.fired {w w' : Term.W} (h : CbOK w w') (hpos : 1 ≤ cbCount w'.outs) (hw : w.outs = []) :
    w.n.committed.isSome = false ∧ w'.n.committed.isSome = true := by
  obtain ⟨l, el, c⟩ := h
  rw [hw, List.nil_append] at el
  rw [el] at hpos
  have := latch_le w'.n
  refine ⟨?_, latch_eq_one.mp (by omega)⟩
  cases hc : w.n.committed.isSome with
  | false => rfl
  | true => have := latch_eq_one.mpr hc; omega

theorem CbOK.quiet {w w' : Term.W} (ha : Appends NoCb w w') (hc : w'.n.committed = w.n.committed) : CbOK w w' := by
  obtain ⟨l, el, pl⟩ := ha
  exact ⟨l, el, by unfold latch; rw [cbCount_noCb l pl, hc, Nat.zero_add]⟩

theorem act_cb_cases {e : Event} {a b : Term.W} (h : Act e a b) :
    (Appends NoCb a b ∧ b.n.committed = a.n.committed)
    ∨ ∃ h v hash blk, CommitAt e h ∧ CommitCond a.n h v hash blk
        ∧ b = (({ a with n := { a.n with committed := some blk } } : Term.W).emit (.commit blk (a.n.store.getCommits h v hash))) := by
  cases h with
  | decide h v hash b hce hc => exact .inr ⟨h, v, hash, b, hce, hc, rfl⟩
  | out o ho =>
    refine .inl ⟨Appends.emit _ _ ?_, rfl⟩
    rcases ho with ⟨_, _, rfl⟩ | ⟨_, rfl⟩ | ⟨_, _, _, rfl⟩ | ⟨_, rfl⟩ <;> rfl
  | propose b hash v o hv hlead ho =>
    refine .inl ⟨Appends.emit _ _ ?_, rfl⟩
    rcases ho with ⟨_, _, rfl⟩ | ⟨_, _, _, rfl⟩ <;> rfl
  | view v ht hv => exact .inl ⟨Appends.emit _ _ rfl, rfl⟩
  | enter v ht hv => exact .inl ⟨Appends.emit _ _ rfl, rfl⟩
  | accept ppm hsrc hauth hv => exact .inl ⟨Appends.emit _ _ rfl, rfl⟩
  | prepared h v hash hce hc => exact .inl ⟨Appends.emit _ _ rfl, rfl⟩
  | late h v hash b hce hc => exact .inl ⟨Appends.emit _ _ rfl, rfl⟩
  | voteSend vc he hv hs => exact .inl ⟨Appends.emit _ _ rfl, rfl⟩
  | _ => exact .inl ⟨Appends.of_outs_eq rfl, rfl⟩

theorem cbOK_act {e : Event} {a b : Term.W} (h : Act e a b) : CbOK a b := by
  rcases act_cb_cases h with ⟨ha, hc⟩ | ⟨h, v, hash, blk, _, hc, rfl⟩
  · exact .quiet ha hc
  · exact ⟨[_], rfl, by unfold latch; rw [hc.latch]; rfl⟩

theorem cbOK_acts {e : Event} {a b : Term.W} (h : Acts e a b) : CbOK a b := Acts.rel CbOK.refl CbOK.trans cbOK_act h

theorem election_cb (w : Term.W) (h v : Nat) : CbOK w (election w h v) := cbOK_acts (election_acts w h v)

/-- **one event of the term, start included: the commit callbacks it makes are exactly what the latch goes up by** -/
theorem step_latch_eq (n : Node) (e : Event) (spi : List Spi) : cbCount (step n e spi).2 + latch n = latch (step n e spi).1 := by
  obtain ⟨l, el, c⟩ := cbOK_acts (stepW_acts { n := n, spi := spi } e)
  rw [step_eq, show (stepW { n := n, spi := spi } e).outs = l from (List.nil_append l ▸ el)]
  exact c

theorem step_cb (n : Node) (e : Event) (spi : List Spi) (hns : ∀ c, e ≠ .start c) :
    cbCount (step n e spi).2 ≤ (if n.committed.isSome then 0 else 1)
    ∧ (n.committed.isSome = true → (step n e spi).1.committed.isSome = true)
    ∧ (cbCount (step n e spi).2 = 1 → (step n e spi).1.committed.isSome = true) := by
  have h := step_latch_eq n e spi
  have h1 := latch_le (step n e spi).1
  refine ⟨?_, fun hc => latch_eq_one.mp ?_, fun hc => latch_eq_one.mp ?_⟩
  · unfold latch at h h1; split <;> simp only [*, if_true, Bool.false_eq_true, if_false] at h <;> omega
  · have := latch_eq_one.mpr hc; omega
  · omega

theorem step_latch (n : Node) (e : Event) (spi : List Spi) (hns : ∀ c, e ≠ .start c)
    (hc : (step n e spi).1.committed.isSome = true) : n.committed.isSome = true ∨ cbCount (step n e spi).2 = 1 := by
  have h := step_latch_eq n e spi
  rw [latch_eq_one.mpr hc] at h
  by_cases h0 : latch n = 1
  · exact .inl (latch_eq_one.mp h0)
  · have := latch_le n; exact .inr (by omega)

theorem run_latch_eq (es : List (Event × List Spi)) :
    ∀ (n : Node), cbCount (C10.runOuts n es).2 + latch n = latch (C10.runOuts n es).1 := by
  induction es with
  | nil => exact fun n => Nat.zero_add _
  | cons x rest ih =>
    intro n
    show cbCount ((step n x.1 x.2).2 ++ (C10.runOuts (step n x.1 x.2).1 rest).2) + _ = latch (C10.runOuts (step n x.1 x.2).1 rest).1
    rw [cbCount_append, ← ih, ← step_latch_eq n x.1 x.2]
    omega

/-- **A term invokes the commit callback at most once**, over every sequence of events, whatever is delivered and
whatever the consumer answers (`hns`, no further start, is not needed: `step_latch_eq` covers a start). -/
theorem at_most_one_commit (es : List (Event × List Spi)) (hns : ∀ x ∈ es, ∀ c, x.1 ≠ .start c) :
    ∀ (n : Node), cbCount (C10.runOuts n es).2 ≤ (if n.committed.isSome then 0 else 1) := by
  intro n
  have h := run_latch_eq es n
  have h1 := latch_le (C10.runOuts n es).1
  unfold latch at h h1
  split <;> simp only [*, if_true, Bool.false_eq_true, if_false] at h <;> omega

end LeanHelix.C13
