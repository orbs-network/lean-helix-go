import LeanHelix.Lemmas.TermActs
/-!
# Stored proposals and the prepared view never lie above the node's view

`ViewsOK n`: every stored proposal is for a view ≤ `n.view` and the prepared view (if any) is ≤ `n.view`.
Proposals are stored only for the node's current view, the node becomes prepared only in a view
it holds a proposal for, and the view never decreases.
-/
namespace LeanHelix.Term
open LeanHelix LeanHelix.Msg

structure ViewsOK (n : Node) : Prop where
  pp : ∀ ppm ∈ n.store.pps, ppm.c.header.view ≤ n.view
  prep : ∀ pv, n.prepared = some pv → pv ≤ n.view

theorem viewsOK_init (c : Cfg) : ViewsOK { cfg := c } := ⟨(by intro p h; cases h), (by intro pv h; cases h)⟩

theorem ViewsOK.of_same {a b : Node} (h : ViewsOK a) (hpps : b.store.pps = a.store.pps) (hprep : b.prepared = a.prepared)
    (hview : a.view ≤ b.view) : ViewsOK b :=
  ⟨by intro p hp; rw [hpps] at hp; exact Nat.le_trans (h.pp p hp) hview,
   by intro pv hpv; rw [hprep] at hpv; exact Nat.le_trans (h.prep pv hpv) hview⟩

theorem ViewsOK.accept {a : Node} (h : ViewsOK a) (ppm : PPMsg) (pm : PMsg) (hv : ppm.c.header.view = a.view) :
    ViewsOK { a with store := (a.store.storePP ppm).storePrepare pm } := by
  refine ⟨fun p hp => ?_, h.prep⟩
  have hp' : p ∈ (a.store.storePP ppm).pps := by rw [← storePrepare_pps]; exact hp
  rcases mem_storePP hp' with hp | rfl
  · exact h.pp p hp
  · exact Nat.le_of_eq hv

variable {e : Event}

theorem Act.views {a b : W} (h : Act e a b) (hi : ViewsOK a.n) : ViewsOK b.n := by
  cases h with
  | view v ht hv => exact hi.of_same rfl rfl hv
  | enter v ht hv => exact hi.of_same rfl rfl hv
  | unprepare => exact ⟨hi.pp, by intro pv h; cases h⟩
  | log op hop hj =>
    refine hi.of_same ?_ rfl (Nat.le_refl _)
    cases e with
    | deliver m =>
      cases m <;> cases hop
      · exact storePrepare_pps _ _
      · exact storeCommit_pps _ _
      · exact storeVC_pps _ _
    | _ => cases hop
  | accept ppm hsrc hauth hv => exact hi.accept ppm _ hv.symm
  | prepared h v hash hce hc =>
    refine ⟨fun p hp => hi.pp p (by rw [← storeCommit_pps]; exact hp), fun pv hpv => ?_⟩
    obtain ⟨ppm, hg, _⟩ := PreparedCond.pp hc
    obtain ⟨hm, _, hvv⟩ := getPP_spec hg
    cases hpv
    exact hvv ▸ hi.pp ppm hm
  | propose b hash v o hv hlead ho =>
    refine ⟨fun p hp => ?_, hi.prep⟩
    rcases mem_storePP hp with hp | rfl
    · exact hi.pp p hp
    · exact Nat.le_of_eq hv.symm
  | voteStore vc hj hown => exact hi.of_same (storeVC_pps _ _) rfl (Nat.le_refl _)
  | _ => exact hi.of_same rfl rfl (Nat.le_refl _)

theorem Act.view_le {a b : W} (h : Act e a b) : a.n.view ≤ b.n.view := by
  cases h with
  | view v ht hv => exact hv
  | enter v ht hv => exact hv
  | _ => exact Nat.le_refl _

theorem Acts.views {a b : W} (h : Acts e a b) : ViewsOK a.n → ViewsOK b.n := Acts.inv Act.views h

theorem initView_views (w : W) (v : Nat) (hi : ViewsOK w.n) : ViewsOK (initView w v).1.n := by
  rw [initView_eq]
  split
  · exact hi
  · rename_i hgt; exact hi.of_same rfl rfl (Nat.le_of_not_gt hgt)

theorem step_views (n : Node) (e : Event) (spi : List Spi) (hi : ViewsOK n) : ViewsOK (step n e spi).1 := by
  rw [step_eq]; exact (stepW_acts { n := n, spi := spi } e).views hi

end LeanHelix.Term
