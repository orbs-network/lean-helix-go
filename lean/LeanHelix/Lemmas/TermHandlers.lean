import LeanHelix.Lemmas.TermValidators
/-!
# What each handler of the term is

A handler of `Model/Term.lean` is a chain of guards followed by a continuation.  The lemmas here say,
once per handler, which guards lead to each continuation and what every other path returns (mostly the argument
unchanged; the state after a refused context or a refused call to the consumer where the handler had one), so that
proofs read these lemmas instead of unfolding a handler and splitting its `if`s.
-/

/-! ## the vocabulary of the properties: the acceptance conditions of PREPARE, COMMIT, PREPREPARE and VIEW_CHANGE, the
vote a node builds on timeout -/

namespace LeanHelix.C08
open LeanHelix LeanHelix.Msg LeanHelix.Term

def PrepareAuthentic (n : Node) (pm : PMsg) : Prop :=
  pm.header.mtype = tP ∧ isMember n.cfg pm.sender.id = true ∧ pm.sender.ok = true
  ∧ ¬ pm.header.view < n.view ∧ isLeader n.cfg pm.sender.id pm.header.view = false

def CommitAuthentic (n : Node) (cm : CMsg) : Prop :=
  cm.shareOk = true ∧ cm.header.mtype = tC ∧ isMember n.cfg cm.sender.id = true ∧ cm.sender.ok = true

def PreprepareAuthentic (n : Node) (ppm : PPMsg) : Prop :=
  ppm.c.header.mtype = tPP ∧ ppm.c.sender.ok = true ∧ isLeader n.cfg ppm.c.sender.id ppm.c.header.view = true
  ∧ n.store.getPP ppm.c.header.height ppm.c.header.view = none

theorem validatePreprepare_iff (n : Node) (ppm : PPMsg) :
    validatePreprepare n ppm = true ↔ PreprepareAuthentic n ppm := by
  unfold validatePreprepare PreprepareAuthentic
  simp only [Bool.and_eq_true, Option.isNone_iff_eq_none, beq_iff_eq]
  constructor
  · rintro ⟨⟨⟨a, b⟩, c⟩, d⟩; exact ⟨b, c, d, a⟩
  · rintro ⟨b, c, d, a⟩; exact ⟨⟨⟨a, b⟩, c⟩, d⟩

theorem PreprepareAuthentic.leader {n : Node} {ppm : PPMsg} (h : PreprepareAuthentic n ppm) :
    isLeader n.cfg ppm.c.sender.id ppm.c.header.view = true := h.2.2.1

theorem PreprepareAuthentic.free {n : Node} {ppm : PPMsg} (h : PreprepareAuthentic n ppm) :
    n.store.getPP ppm.c.header.height ppm.c.header.view = none := h.2.2.2

theorem PreprepareAuthentic.congr {a b : Node} (hc : b.cfg = a.cfg) (hs : b.store = a.store) {ppm : PPMsg}
    (h : PreprepareAuthentic a ppm) : PreprepareAuthentic b ppm := by
  unfold PreprepareAuthentic at h ⊢
  rw [hc, hs]
  exact h

end LeanHelix.C08

namespace LeanHelix.C11
open LeanHelix LeanHelix.Msg LeanHelix.Term

/-- what `handleViewChange` checked before it stored a received vote -/
def VoteChecked (n : Node) (m : VCMsg) : Prop :=
  isViewChangeValid n m.c = true
  ∧ ¬ (m.block.isNone = true ∧ m.c.header.proof.isSome = true)
  ∧ (m.block.isSome = true → commitmentOk m.block (proofHash m.c.header.proof) = true)

/-- among checked votes "has a block" and "has a proof" coincide, provided no block has the empty hash (to which
a vote without a proof would have to commit) -/
theorem VoteChecked.block_iff_proof {n : Node} {m : VCMsg} (h : VoteChecked n m)
    (hne : ∀ b, m.block = some b → b.hash ≠ emptyBytes) : m.block.isSome = m.c.header.proof.isSome := by
  cases hb : m.block with
  | none =>
    cases hp : m.c.header.proof with
    | none => rfl
    | some p => exact absurd ⟨by rw [hb]; rfl, by rw [hp]; rfl⟩ h.2.1
  | some b =>
    cases hp : m.c.header.proof with
    | some p => rfl
    | none =>
      have := h.2.2 (by rw [hb]; rfl)
      rw [hb, hp] at this
      exact absurd (by simpa [commitmentOk, proofHash] using this) (hne b hb)

end LeanHelix.C11

namespace LeanHelix.C09
open LeanHelix LeanHelix.Msg LeanHelix.Term

/-- the VIEW_CHANGE a node builds when its timer fires; `n` is the node after it moved to the next view -/
def voteOnTimeout (n : Node) : VCMsg :=
  let pr : Option (Proof × Option Block) := match n.prepared with
    | some pv => extractProof n pv
    | none => none
  ⟨⟨⟨tVC, n.cfg.inst, n.cfg.height, n.view, pr.map (·.1)⟩, mySig n.cfg⟩, pr.bind (·.2)⟩

end LeanHelix.C09

namespace LeanHelix.Term
open LeanHelix LeanHelix.Msg

theorem validatePreprepare_congr {a b : Node} (hc : b.cfg = a.cfg) (hs : b.store = a.store) (ppm : PPMsg) :
    validatePreprepare b ppm = validatePreprepare a ppm := by
  unfold validatePreprepare; rw [hc, hs]

/-- one guard of a handler (`if c then w else r`, where `c` fails exactly when `G` holds) in front of the
rest `r` of the chain -/
theorem guard_cons {α : Type} {c G G' : Prop} [Decidable c] {w k r : α} (hc : ¬ c ↔ G)
    (h : (¬ G' ∧ r = w) ∨ (G' ∧ r = k)) :
    (¬ (G ∧ G') ∧ (if c then w else r) = w) ∨ ((G ∧ G') ∧ (if c then w else r) = k) := by
  by_cases hcc : c
  · exact Or.inl ⟨fun g => hc.mpr g.1 hcc, if_pos hcc⟩
  · rw [if_neg hcc]
    exact h.elim (fun ⟨hn, e⟩ => Or.inl ⟨fun g => hn g.2, e⟩) (fun ⟨hg, e⟩ => Or.inr ⟨⟨hc.mp hcc, hg⟩, e⟩)

theorem guard_last {α : Type} {c G : Prop} [Decidable c] {w k : α} (hc : ¬ c ↔ G) :
    (¬ G ∧ (if c then w else k) = w) ∨ (G ∧ (if c then w else k) = k) := by
  by_cases hcc : c
  · exact Or.inl ⟨fun g => hc.mpr g hcc, if_pos hcc⟩
  · exact Or.inr ⟨hc.mp hcc, if_neg hcc⟩

theorem handlePrepare_cases (w : W) (pm : PMsg) :
    (¬ C08.PrepareAuthentic w.n pm ∧ handlePrepare w pm = w) ∨
    (C08.PrepareAuthentic w.n pm ∧ handlePrepare w pm =
      checkPreparedLocally { w with n := { w.n with store := w.n.store.storePrepare pm } }
        pm.header.height pm.header.view pm.header.hash) :=
  guard_cons (by simp) (guard_cons (by simp) (guard_cons (by simp) (guard_cons Iff.rfl (guard_last (by simp)))))

theorem handleCommit_cases (w : W) (cm : CMsg) :
    (¬ C08.CommitAuthentic w.n cm ∧ handleCommit w cm = w) ∨
    (C08.CommitAuthentic w.n cm ∧ handleCommit w cm =
      checkCommitted { w with n := { w.n with store := w.n.store.storeCommit cm } }
        cm.header.height cm.header.view cm.header.hash) :=
  guard_cons (by simp) (guard_cons (by simp) (guard_cons (by simp) (guard_last (by simp))))

def VCGuards (n : Node) (vcm : VCMsg) : Prop :=
  isLeader n.cfg n.cfg.me vcm.c.header.view = true ∧ n.view ≤ vcm.c.header.view ∧ C11.VoteChecked n vcm

theorem handleViewChange_cases (w : W) (vcm : VCMsg) :
    (¬ VCGuards w.n vcm ∧ handleViewChange w vcm = w) ∨
    (VCGuards w.n vcm ∧ handleViewChange w vcm =
      checkElected { w with n := { w.n with store := w.n.store.storeVC vcm } } vcm.c.header.height vcm.c.header.view) :=
  guard_cons (by simp) (guard_cons (by simp [Nat.not_lt]) (guard_cons (by simp) (guard_cons (by simp) (guard_last (by simp)))))

theorem handlePrePrepare_cases (w : W) (ppm : PPMsg) :
    (¬ C08.PreprepareAuthentic w.n ppm ∧ handlePrePrepare w ppm = w) ∨
    (C08.PreprepareAuthentic w.n ppm ∧
      ((lockConflict w.n ppm = true ∧ handlePrePrepare w ppm = w) ∨
       (lockConflict w.n ppm = false ∧
        (((askValidate w ppm.c.header.height ppm.c.header.view ppm.block ppm.c.header.hash).2 = false
            ∧ handlePrePrepare w ppm = (askValidate w ppm.c.header.height ppm.c.header.view ppm.block ppm.c.header.hash).1) ∨
         ((askValidate w ppm.c.header.height ppm.c.header.view ppm.block ppm.c.header.hash).2 = true
            ∧ handlePrePrepare w ppm =
              processPreprepare (askValidate w ppm.c.header.height ppm.c.header.view ppm.block ppm.c.header.hash).1 ppm))))) := by
  have e : handlePrePrepare w ppm =
      if !validatePreprepare w.n ppm then w
      else if lockConflict w.n ppm then w
      else if !(askValidate w ppm.c.header.height ppm.c.header.view ppm.block ppm.c.header.hash).2 then
        (askValidate w ppm.c.header.height ppm.c.header.view ppm.block ppm.c.header.hash).1
      else processPreprepare (askValidate w ppm.c.header.height ppm.c.header.view ppm.block ppm.c.header.hash).1 ppm := rfl
  rw [e, ← C08.validatePreprepare_iff]
  cases validatePreprepare w.n ppm
  case false => exact Or.inl ⟨Bool.false_ne_true, rfl⟩
  refine Or.inr ⟨rfl, ?_⟩
  cases lockConflict w.n ppm
  case true => exact Or.inl ⟨rfl, rfl⟩
  refine Or.inr ⟨rfl, ?_⟩
  cases (askValidate w ppm.c.header.height ppm.c.header.view ppm.block ppm.c.header.hash).2
  case false => exact Or.inl ⟨rfl, rfl⟩
  case true => exact Or.inr ⟨rfl, rfl⟩

/-- `processPreprepare` up to its call of `checkPreparedLocally` -/
def adoptState (w : W) (ppm : PPMsg) : W :=
  ({ w with n := { w.n with store := (w.n.store.storePP ppm).storePrepare (ownPrepare w.n.cfg ppm.c.header.height ppm.c.header.view ppm.c.header.hash) } } : W).emit
    (.send (others w.n.cfg) (.prepare (ownPrepare w.n.cfg ppm.c.header.height ppm.c.header.view ppm.c.header.hash)))

theorem processPreprepare_cases (w : W) (ppm : PPMsg) :
    (w.n.view ≠ ppm.c.header.view ∧ processPreprepare w ppm = w) ∨
    (w.n.view = ppm.c.header.view ∧ processPreprepare w ppm =
      checkPreparedLocally (adoptState w ppm) ppm.c.header.height ppm.c.header.view ppm.c.header.hash) := by
  unfold processPreprepare
  dsimp only
  by_cases hv : w.n.view = ppm.c.header.view
  · exact Or.inr ⟨hv, by rw [if_neg (by simpa using hv)]; rfl⟩
  · exact Or.inl ⟨hv, if_pos (by simpa using hv)⟩

theorem processPreprepare_unfold (w : W) (ppm : PPMsg) (hv : w.n.view = ppm.c.header.view) :
    processPreprepare w ppm = checkPreparedLocally (adoptState w ppm) ppm.c.header.height ppm.c.header.view ppm.c.header.hash :=
  (processPreprepare_cases w ppm).elim (fun c => absurd hv c.1) (·.2)

/-! ## NEW_VIEW -/

/-- the checks of `handleNewView` before it hands over to `adoptNewView` -/
structure NVGuards (n : Node) (nvm : NVMsg) : Prop where
  mtype : nvm.header.mtype = tNV
  view : n.view ≤ nvm.header.view
  sig : nvm.sender.ok = true
  leader : isLeader n.cfg nvm.sender.id nvm.header.view = true
  votes : validateVotes n nvm.header.height nvm.header.view nvm.header.votes = true
  ppView : nvm.pp.header.view = nvm.header.view
  ppHeight : nvm.pp.header.height = nvm.header.height
  ppInst : nvm.pp.header.inst = n.cfg.inst
  lock : lockOk n nvm = true

theorem nvGuards_iff (n : Node) (nvm : NVMsg) : NVGuards n nvm ↔ C07.ValidCertificate n nvm := by
  constructor
  · intro g
    obtain ⟨q, vv, nd⟩ := (C07.validateVotes_iff _ _ _ _).mp g.votes
    exact ⟨g.mtype, Nat.not_lt.mpr g.view, g.sig, g.leader, q, vv, nd, g.ppView, g.ppHeight, g.ppInst,
      fun lv hlv => ((lockOk_iff _ _).mp g.lock lv hlv).2⟩
  · intro ⟨a1, a2, a3, a4, a5, a6, a7, a8, a9, a10, a11⟩
    -- the latest vote is one of the votes, all of which are valid
    exact ⟨a1, Nat.le_of_not_gt a2, a3, a4, (C07.validateVotes_iff _ _ _ _).mpr ⟨a5, a6, a7⟩, a8, a9, a10,
      (lockOk_iff _ _).mpr fun lv hlv => ⟨(a6 lv ((C07.latestVote_is_highest _).2 lv hlv).1).2.2, a11 lv hlv⟩⟩

/-- the proposal embedded in a NEW_VIEW that passed the guards, typed PREPREPARE and signed by the NEW_VIEW's sender, is
authentic wherever its slot is free -/
theorem NVGuards.ppAuthentic {n : Node} {nvm : NVMsg} (g : NVGuards n nvm) (hty : nvm.pp.header.mtype = tPP)
    (hsig : nvm.pp.sender = nvm.sender) (hnone : n.store.getPP nvm.pp.header.height nvm.pp.header.view = none) :
    C08.PreprepareAuthentic n ⟨nvm.pp, nvm.block⟩ :=
  ⟨hty, hsig ▸ g.sig, by show isLeader n.cfg nvm.pp.sender.id nvm.pp.header.view = true; rw [hsig, g.ppView]; exact g.leader, hnone⟩

theorem handleNewView_cases (w : W) (nvm : NVMsg) :
    (¬ NVGuards w.n nvm ∧ handleNewView w nvm = w) ∨ (NVGuards w.n nvm ∧ handleNewView w nvm = adoptNewView w nvm) := by
  have e : NVGuards w.n nvm ↔ nvm.header.mtype = tNV ∧ w.n.view ≤ nvm.header.view ∧ nvm.sender.ok = true
      ∧ isLeader w.n.cfg nvm.sender.id nvm.header.view = true
      ∧ validateVotes w.n nvm.header.height nvm.header.view nvm.header.votes = true
      ∧ nvm.pp.header.view = nvm.header.view ∧ nvm.pp.header.height = nvm.header.height
      ∧ nvm.pp.header.inst = w.n.cfg.inst ∧ lockOk w.n nvm = true :=
    ⟨fun g => ⟨g.mtype, g.view, g.sig, g.leader, g.votes, g.ppView, g.ppHeight, g.ppInst, g.lock⟩,
     fun ⟨a1, a2, a3, a4, a5, a6, a7, a8, a9⟩ => ⟨a1, a2, a3, a4, a5, a6, a7, a8, a9⟩⟩
  rw [e]
  exact guard_cons (by simp) (guard_cons (by simp) (guard_cons (by simp) (guard_cons (by simp) (guard_cons (by simp)
    (guard_cons (by simp) (guard_cons (by simp) (guard_cons (by simp) (guard_last (by simp)))))))))

/-- the first step of `adoptNewView`: a proposal that no vote locks goes through the consumer's validation -/
def nvAsk (w : W) (nvm : NVMsg) : W × Bool :=
  if (latestVote nvm.header.votes).isNone then
    askValidate w nvm.header.height nvm.header.view nvm.block nvm.pp.header.hash
  else (w, true)

/-- the third step of `adoptNewView`, and the head of `onElectedByViewChange`: the bookkeeping value and the view move to `v` -/
def nvEnter (w : W) (v : Nat) : W × Bool := initView { w with n := { w.n with latestNV := v } } v

theorem adoptNewView_cases (w : W) (nvm : NVMsg) :
    (((nvAsk w nvm).2 = false ∨ validatePreprepare (nvAsk w nvm).1.n ⟨nvm.pp, nvm.block⟩ = false)
      ∧ adoptNewView w nvm = (nvAsk w nvm).1) ∨
    ((nvAsk w nvm).2 = true ∧ validatePreprepare (nvAsk w nvm).1.n ⟨nvm.pp, nvm.block⟩ = true ∧
      (((nvEnter (nvAsk w nvm).1 nvm.header.view).2 = false
          ∧ adoptNewView w nvm = (nvEnter (nvAsk w nvm).1 nvm.header.view).1) ∨
       ((nvEnter (nvAsk w nvm).1 nvm.header.view).2 = true
          ∧ adoptNewView w nvm = processPreprepare (nvEnter (nvAsk w nvm).1 nvm.header.view).1 ⟨nvm.pp, nvm.block⟩))) := by
  have e : adoptNewView w nvm =
      if !(nvAsk w nvm).2 then (nvAsk w nvm).1
      else if !validatePreprepare (nvAsk w nvm).1.n ⟨nvm.pp, nvm.block⟩ then (nvAsk w nvm).1
      else if !(nvEnter (nvAsk w nvm).1 nvm.header.view).2 then (nvEnter (nvAsk w nvm).1 nvm.header.view).1
      else processPreprepare (nvEnter (nvAsk w nvm).1 nvm.header.view).1 ⟨nvm.pp, nvm.block⟩ := rfl
  rw [e]
  generalize nvAsk w nvm = a
  generalize nvEnter a.1 nvm.header.view = b
  generalize validatePreprepare a.1.n ⟨nvm.pp, nvm.block⟩ = ok
  obtain ⟨a1, a2⟩ := a
  obtain ⟨b1, b2⟩ := b
  cases a2
  case false => exact Or.inl ⟨Or.inl rfl, rfl⟩
  cases ok
  case false => exact Or.inl ⟨Or.inr rfl, rfl⟩
  cases b2
  case false => exact Or.inr ⟨rfl, rfl, Or.inl ⟨rfl, rfl⟩⟩
  case true => exact Or.inr ⟨rfl, rfl, Or.inr ⟨rfl, rfl⟩⟩

/-- `initView` where it does not refuse -/
def W.enterView (w : W) (v : Nat) : W :=
  ({ w with n := { w.n with view := v } } : W).emit (.registerElection w.n.cfg.height v)

theorem initView_eq (w : W) (v : Nat) :
    initView w v = if w.n.view > v then (w, false) else (w.enterView v, true) := rfl

theorem emit_n (w : W) (o : Out) : (w.emit o).n = w.n := rfl
structure NvEntered (w : W) (v : Nat) (r : W × Bool) : Prop where
  cfg : r.1.n.cfg = w.n.cfg
  store : r.1.n.store = w.n.store
  prepared : r.1.n.prepared = w.n.prepared
  latestNV : r.1.n.latestNV = v
  reg : r.1.n.reg = w.n.reg
  spi : r.1.spi = w.spi
  view : r.2 = true → r.1.n.view = v
  le : r.2 = true → w.n.view ≤ v
  refused : r.2 = false → r.1.n.view = w.n.view

theorem nvEnter_spec (w : W) (v : Nat) : NvEntered w v (nvEnter w v) := by
  unfold nvEnter
  rw [initView_eq]
  split
  · exact ⟨rfl, rfl, rfl, rfl, rfl, rfl, nofun, nofun, fun _ => rfl⟩
  · rename_i hgt
    exact ⟨rfl, rfl, rfl, rfl, rfl, rfl, fun _ => rfl, fun _ => Nat.le_of_not_gt hgt, nofun⟩

theorem nvEnter_ok {w : W} {v : Nat} (h : w.n.view ≤ v) : (nvEnter w v).2 = true := by
  unfold nvEnter initView
  rw [if_neg (Nat.not_lt.mpr h)]

theorem nvEnter_view_le (w : W) (v : Nat) : w.n.view ≤ (nvEnter w v).1.n.view := by
  have i := nvEnter_spec w v
  cases h : (nvEnter w v).2 with
  | true => rw [i.view h]; exact i.le h
  | false => rw [i.refused h]; exact Nat.le_refl _

theorem nvAsk_ok {w : W} {nvm : NVMsg} (h : (latestVote nvm.header.votes).isNone = true →
    (askValidate w nvm.header.height nvm.header.view nvm.block nvm.pp.header.hash).2 = true) : (nvAsk w nvm).2 = true := by
  unfold nvAsk
  split
  · rename_i hn; exact h hn
  · rfl

/-! ## the consumer calls -/

theorem askValidate_cases (w : W) (h v : Nat) (b : Option Block) (hash : Nat) :
    ((ctxFor w h v).2 = none ∧ askValidate w h v b hash = ((ctxFor w h v).1, false)) ∨
    (∃ id, (ctxFor w h v).2 = some id ∧
      ((∃ good cd rest, w.spi = .verdict good cd :: rest ∧ askValidate w h v b hash =
          (cancelMeanwhile { ((ctxFor w h v).1.emit (.callValidate h b hash)) with spi := rest } cd,
           good && !ctxDone (cancelMeanwhile { ((ctxFor w h v).1.emit (.callValidate h b hash)) with spi := rest } cd) id)) ∨
       ((∀ good cd rest, w.spi ≠ .verdict good cd :: rest) ∧ askValidate w h v b hash =
          (((ctxFor w h v).1.emit (.callValidate h b hash)).emit (.goPanic "missing SPI answer"), false)))) := by
  have hs : ((ctxFor w h v).1.emit (.callValidate h b hash)).spi = w.spi := rfl
  unfold askValidate
  dsimp only
  split
  · rename_i hc; exact Or.inl ⟨hc, rfl⟩
  · rename_i id hc
    refine Or.inr ⟨id, hc, ?_⟩
    split
    · rename_i good cd rest hsp; exact Or.inl ⟨good, cd, rest, hs ▸ hsp, rfl⟩
    · rename_i hno; exact Or.inr ⟨fun g c r he => hno g c r (hs ▸ he), rfl⟩

theorem askProposal_cases (w : W) (h v : Nat) :
    ((ctxFor w h v).2 = none ∧ askProposal w h v = ((ctxFor w h v).1, none)) ∨
    (∃ id, (ctxFor w h v).2 = some id ∧
      ((∃ b cd rest, w.spi = .proposal b cd :: rest ∧ askProposal w h v =
          (cancelMeanwhile { ((ctxFor w h v).1.emit (.callRequest h)) with spi := rest } cd,
           if ctxDone (cancelMeanwhile { ((ctxFor w h v).1.emit (.callRequest h)) with spi := rest } cd) id then none else some b)) ∨
       ((∀ b cd rest, w.spi ≠ .proposal b cd :: rest) ∧ askProposal w h v =
          (((ctxFor w h v).1.emit (.callRequest h)).emit (.goPanic "missing SPI answer"), none)))) := by
  have hs : ((ctxFor w h v).1.emit (.callRequest h)).spi = w.spi := rfl
  unfold askProposal
  dsimp only
  split
  · rename_i hc; exact Or.inl ⟨hc, rfl⟩
  · rename_i id hc
    refine Or.inr ⟨id, hc, ?_⟩
    split
    · rename_i b cd rest hsp; exact Or.inl ⟨b, cd, rest, hs ▸ hsp, rfl⟩
    · rename_i hno; exact Or.inr ⟨fun b c r he => hno b c r (hs ▸ he), rfl⟩

theorem askValidate_true {w : W} {h v : Nat} {b : Option Block} {hash : Nat} (hok : (askValidate w h v b hash).2 = true) :
    ∃ id cd rest, (ctxFor w h v).2 = some id ∧ w.spi = Spi.verdict true cd :: rest
      ∧ (askValidate w h v b hash).1 = cancelMeanwhile { ((ctxFor w h v).1.emit (.callValidate h b hash)) with spi := rest } cd
      ∧ ctxDone (askValidate w h v b hash).1 id = false := by
  rcases askValidate_cases w h v b hash with ⟨_, e⟩ | ⟨id, hc, ⟨good, cd, rest, hsp, e⟩ | ⟨_, e⟩⟩ <;> rw [e] at hok ⊢
  · cases hok
  · simp only [Bool.and_eq_true, Bool.not_eq_true'] at hok
    exact ⟨id, cd, rest, hc, by rw [hsp, hok.1], rfl, hok.2⟩
  · cases hok

theorem askValidate_ok_spi (w : W) (h v : Nat) (b : Option Block) (hash : Nat)
    (hok : (askValidate w h v b hash).2 = true) : ∃ cd rest, w.spi = Spi.verdict true cd :: rest :=
  let ⟨_, cd, rest, _, hs, _⟩ := askValidate_true hok; ⟨cd, rest, hs⟩

/-- the block is handed on only if the context was issued and is live after the call -/
theorem askProposal_some {w : W} {h v : Nat} {b : Block} (hb : (askProposal w h v).2 = some b) :
    ∃ id cd rest, (ctxFor w h v).2 = some id ∧ w.spi = Spi.proposal b cd :: rest ∧ ctxDone (askProposal w h v).1 id = false := by
  rcases askProposal_cases w h v with ⟨_, e⟩ | ⟨id, hc, ⟨b', cd, rest, hsp, e⟩ | ⟨_, e⟩⟩ <;> rw [e] at hb ⊢
  · cases hb
  · dsimp only at hb
    split at hb <;> cases hb
    exact ⟨id, cd, rest, hc, hsp, Bool.eq_false_iff.mpr ‹_›⟩
  · cases hb

theorem askProposal_some_spi (w : W) (h v : Nat) (b : Block) (hsome : (askProposal w h v).2 = some b) :
    ∃ cd rest, w.spi = Spi.proposal b cd :: rest :=
  let ⟨_, cd, rest, _, hs, _⟩ := askProposal_some hsome; ⟨cd, rest, hs⟩

/-! ## the commit and prepare paths -/

/-- the tail of `checkCommitted`, from `sendCommitIfNotAlreadySent` on -/
def commitW (w : W) (h v hash : Nat) (b : Block) : W :=
  let commits := w.n.store.getCommits h v hash
  let w1 := if commits.any (fun c => c.sender.id == w.n.cfg.me) then w
            else w.emit (.send (others w.n.cfg) (.commit (ownCommit w.n.cfg h v hash)))
  ({ w1 with n := { w1.n with committed := some b } } : W).emit (.commit b commits)

def CommitCond (n : Node) (h v hash : Nat) (b : Block) : Prop :=
  n.committed = none ∧ isQuorum n.cfg ((n.store.getCommits h v hash).map (·.sender.id)) = true
  ∧ ∃ ppm, n.store.getPP h v = some ppm ∧ ppm.block = some b ∧ ppm.c.header.hash = hash

theorem CommitCond.latch {n : Node} {h v hash : Nat} {b : Block} (hc : CommitCond n h v hash b) : n.committed = none := hc.1

theorem CommitCond.quorum {n : Node} {h v hash : Nat} {b : Block} (hc : CommitCond n h v hash b) :
    isQuorum n.cfg ((n.store.getCommits h v hash).map (·.sender.id)) = true := hc.2.1

theorem CommitCond.pp {n : Node} {h v hash : Nat} {b : Block} (hc : CommitCond n h v hash b) :
    ∃ ppm, n.store.getPP h v = some ppm ∧ ppm.block = some b ∧ ppm.c.header.hash = hash := hc.2.2

theorem CommitCond.block_eq {n : Node} {h v hash : Nat} {b b' : Block} (hc : CommitCond n h v hash b)
    (hc' : CommitCond n h v hash b') : b = b' := by
  obtain ⟨_, _, ppm, hg, hb, _⟩ := hc
  obtain ⟨_, _, ppm', hg', hb', _⟩ := hc'
  obtain rfl : ppm = ppm' := Option.some.inj (hg.symm.trans hg')
  exact Option.some.inj (hb.symm.trans hb')

theorem checkCommitted_cases (w : W) (h v hash : Nat) :
    ((∀ b, ¬ CommitCond w.n h v hash b) ∧ checkCommitted w h v hash = w) ∨
    ∃ b, CommitCond w.n h v hash b ∧
      ((ctxFor w h maxView).2 = none ∧ checkCommitted w h v hash = (ctxFor w h maxView).1
        ∨ (ctxFor w h maxView).2.isSome ∧ checkCommitted w h v hash = commitW (ctxFor w h maxView).1 h v hash b) := by
  unfold checkCommitted
  by_cases hcom : w.n.committed.isSome = true
  · exact Or.inl ⟨fun b c => by rw [c.1] at hcom; exact Bool.false_ne_true hcom, if_pos hcom⟩
  by_cases hpre : (!isPreprepared w.n h v hash) = true
  · refine Or.inl ⟨fun b ⟨_, _, ppm, hg, hb, hh⟩ => ?_, (if_neg hcom).trans (if_pos hpre)⟩
    rw [(isPreprepared_iff _ _ _ _).mpr ⟨ppm, hg, by rw [hb]; rfl, hh⟩] at hpre
    cases hpre
  by_cases hq : (!isQuorum w.n.cfg ((w.n.store.getCommits h v hash).map (·.sender.id))) = true
  · refine Or.inl ⟨fun b c => ?_, (if_neg hcom).trans ((if_neg hpre).trans (if_pos hq))⟩
    rw [c.2.1] at hq
    cases hq
  rw [if_neg hcom, if_neg hpre]
  dsimp only
  rw [if_neg hq]
  obtain ⟨ppm, hget, hblk, hh⟩ := (isPreprepared_iff _ _ _ _).mp (by simpa using hpre)
  obtain ⟨b, hb⟩ := Option.isSome_iff_exists.mp hblk
  refine Or.inr ⟨b, ⟨by simpa using hcom, by simpa using hq, ppm, hget, hb, hh⟩, ?_⟩
  rw [hget]
  dsimp only
  rw [hb]
  cases hc : (ctxFor w h maxView).2 with
  | none => exact Or.inl ⟨rfl, if_pos rfl⟩
  | some id => exact Or.inr ⟨rfl, if_neg Bool.false_ne_true⟩

theorem commitW_n (w : W) (h v hash : Nat) (b : Block) : (commitW w h v hash b).n = { w.n with committed := some b } := by
  unfold commitW
  dsimp only
  split <;> rfl

theorem commitW_cb_mem (w : W) (h v hash : Nat) (b : Block) :
    Out.commit b (w.n.store.getCommits h v hash) ∈ (commitW w h v hash b).outs :=
  List.mem_append_right _ (List.mem_singleton.mpr rfl)

theorem mem_commitW {w : W} {h v hash : Nat} {b : Block} {x : Out} (hx : x ∈ (commitW w h v hash b).outs) :
    x ∈ w.outs ∨ x = .send (others w.n.cfg) (.commit (ownCommit w.n.cfg h v hash))
      ∨ x = .commit b (w.n.store.getCommits h v hash) := by
  unfold commitW at hx
  dsimp only at hx
  split at hx <;> simp only [W.emit, List.mem_append, List.mem_singleton] at hx
  · exact hx.elim Or.inl (fun h => Or.inr (Or.inr h))
  · exact hx.elim (fun h => h.elim Or.inl (fun h => Or.inr (Or.inl h))) (fun h => Or.inr (Or.inr h))

def PreparedCond (n : Node) (h v hash : Nat) : Prop :=
  n.prepared ≠ some v ∧ isPreprepared n h v hash = true ∧
  ∃ ppm, n.store.getPP h v = some ppm ∧
    isQuorum n.cfg ((n.store.getPrepares h v hash).map (·.sender.id) ++ [ppm.c.sender.id]) = true

theorem PreparedCond.pp {n : Node} {h v hash : Nat} (hc : PreparedCond n h v hash) :
    ∃ ppm, n.store.getPP h v = some ppm ∧
      isQuorum n.cfg ((n.store.getPrepares h v hash).map (·.sender.id) ++ [ppm.c.sender.id]) = true := hc.2.2

theorem checkPreparedLocally_cases (w : W) (h v hash : Nat) :
    (¬ PreparedCond w.n h v hash ∧ checkPreparedLocally w h v hash = w) ∨
    (PreparedCond w.n h v hash ∧ checkPreparedLocally w h v hash = onPreparedLocally w h v hash) := by
  unfold checkPreparedLocally
  by_cases hp : (w.n.prepared == some v) = true
  · exact Or.inl ⟨fun c => c.1 (by simpa using hp), if_pos hp⟩
  by_cases hpp : (!isPreprepared w.n h v hash) = true
  · exact Or.inl ⟨fun c => by rw [c.2.1] at hpp; exact Bool.false_ne_true hpp, (if_neg hp).trans (if_pos hpp)⟩
  rw [if_neg hp, if_neg hpp]
  cases hget : w.n.store.getPP h v with
  | none => exact Or.inl ⟨fun ⟨_, _, ppm, hg, _⟩ => (by rw [hget] at hg; cases hg), rfl⟩
  | some ppm =>
    dsimp only
    by_cases hq : isQuorum w.n.cfg ((w.n.store.getPrepares h v hash).map (·.sender.id) ++ [ppm.c.sender.id]) = true
    · exact Or.inr ⟨⟨by simpa using hp, by simpa using hpp, ppm, hget, hq⟩, if_pos hq⟩
    · refine Or.inl ⟨fun ⟨_, _, ppm', hg, hq'⟩ => ?_, if_neg hq⟩
      rw [hget] at hg
      cases hg
      exact hq hq'

theorem checkPreparedLocally_of_cond {w : W} {h v hash : Nat} (hc : PreparedCond w.n h v hash) :
    checkPreparedLocally w h v hash = onPreparedLocally w h v hash :=
  ((checkPreparedLocally_cases w h v hash).resolve_left (fun c => c.1 hc)).2

/-- `onPreparedLocally` up to its call of `checkCommitted`: the node is prepared in `v`, its own COMMIT logged and sent -/
def preparedW (w : W) (h v hash : Nat) : W :=
  ({ w with n := { w.n with prepared := some v, store := w.n.store.storeCommit (ownCommit w.n.cfg h v hash) } } : W).emit
    (.send (others w.n.cfg) (.commit (ownCommit w.n.cfg h v hash)))

theorem onPreparedLocally_eq (w : W) (h v hash : Nat) :
    onPreparedLocally w h v hash = checkCommitted (preparedW w h v hash) h v hash := rfl

/-! ## election -/

/-- the tail of `onElectedByViewChange` (`finish` in the model): the proposal for `view` is logged and the NEW_VIEW sent -/
def sendNewView (w : W) (h view : Nat) (vcs : List VCMsg) (b : Block) (hash : Nat) : W :=
  ({ w with n := { w.n with store := w.n.store.storePP ⟨⟨mkRef w.n.cfg tPP view hash, mySig w.n.cfg⟩, some b⟩ } } : W).emit
    (.send (others w.n.cfg) (.newView ⟨⟨tNV, w.n.cfg.inst, h, view, vcs.map (·.c)⟩, mySig w.n.cfg,
      ⟨mkRef w.n.cfg tPP view hash, mySig w.n.cfg⟩, some b⟩))

theorem onElectedByViewChange_cases (w : W) (view : Nat) (vcs : List VCMsg) :
    ((nvEnter w view).2 = false ∧ onElectedByViewChange w view vcs = (nvEnter w view).1) ∨
    ((nvEnter w view).2 = true ∧
      ((∃ b hash, latestBlockFromVCs vcs = some (b, hash)
          ∧ onElectedByViewChange w view vcs = sendNewView (nvEnter w view).1 (nvEnter w view).1.n.cfg.height view vcs b hash) ∨
       (latestBlockFromVCs vcs = none ∧
        (((askProposal (nvEnter w view).1 (nvEnter w view).1.n.cfg.height view).2 = none
            ∧ onElectedByViewChange w view vcs = (askProposal (nvEnter w view).1 (nvEnter w view).1.n.cfg.height view).1) ∨
         (∃ b, (askProposal (nvEnter w view).1 (nvEnter w view).1.n.cfg.height view).2 = some b
            ∧ onElectedByViewChange w view vcs =
              sendNewView (askProposal (nvEnter w view).1 (nvEnter w view).1.n.cfg.height view).1
                (nvEnter w view).1.n.cfg.height view vcs b b.hash))))) := by
  have e : onElectedByViewChange w view vcs =
      if !(nvEnter w view).2 then (nvEnter w view).1
      else match latestBlockFromVCs vcs with
        | some (b, hash) => sendNewView (nvEnter w view).1 (nvEnter w view).1.n.cfg.height view vcs b hash
        | none =>
          match (askProposal (nvEnter w view).1 (nvEnter w view).1.n.cfg.height view).2 with
          | some b => sendNewView (askProposal (nvEnter w view).1 (nvEnter w view).1.n.cfg.height view).1
              (nvEnter w view).1.n.cfg.height view vcs b b.hash
          | none => (askProposal (nvEnter w view).1 (nvEnter w view).1.n.cfg.height view).1 := rfl
  rw [e]
  cases (nvEnter w view).2
  case false => exact Or.inl ⟨rfl, rfl⟩
  refine Or.inr ⟨rfl, ?_⟩
  cases latestBlockFromVCs vcs with
  | some p => exact Or.inl ⟨p.1, p.2, rfl, rfl⟩
  | none =>
    refine Or.inr ⟨rfl, ?_⟩
    cases (askProposal (nvEnter w view).1 (nvEnter w view).1.n.cfg.height view).2 with
    | none => exact Or.inl ⟨rfl, rfl⟩
    | some b => exact Or.inr ⟨b, rfl, rfl⟩

theorem checkElected_cases (w : W) (h view : Nat) :
    ((view ≤ w.n.latestNV ∨ isQuorum w.n.cfg ((w.n.store.getVCs h view).map (·.c.sender.id)) = false)
      ∧ checkElected w h view = w) ∨
    (w.n.latestNV < view ∧ isQuorum w.n.cfg ((w.n.store.getVCs h view).map (·.c.sender.id)) = true
      ∧ checkElected w h view = onElectedByViewChange w view (w.n.store.getVCs h view)) := by
  unfold checkElected
  by_cases hlt : w.n.latestNV ≥ view
  · exact Or.inl ⟨Or.inl hlt, if_pos hlt⟩
  rw [if_neg hlt]
  dsimp only
  cases hq : isQuorum w.n.cfg ((w.n.store.getVCs h view).map (·.c.sender.id))
  · refine Or.inl ⟨Or.inr rfl, ?_⟩
    split
    · rfl
    · rfl
  · rw [List.isEmpty_eq_false_iff.mpr (ne_nil_of_quorum hq)]
    exact Or.inr ⟨Nat.lt_of_not_ge hlt, rfl, rfl⟩


theorem election_cases (w : W) (h v : Nat) :
    ((h ≠ w.n.cfg.height ∨ v ≠ w.n.view ∨ wrap64 (w.n.view + 1) < w.n.view) ∧ election w h v = w) ∨
    (h = w.n.cfg.height ∧ v = w.n.view ∧ w.n.view ≤ wrap64 (w.n.view + 1) ∧
      ((isLeader w.n.cfg w.n.cfg.me (wrap64 (w.n.view + 1)) = true ∧ election w h v =
          checkElected { (w.enterView (wrap64 (w.n.view + 1))) with n := { (w.enterView (wrap64 (w.n.view + 1))).n with
            store := w.n.store.storeVC (C09.voteOnTimeout (w.enterView (wrap64 (w.n.view + 1))).n) } }
            h (wrap64 (w.n.view + 1))) ∨
       (isLeader w.n.cfg w.n.cfg.me (wrap64 (w.n.view + 1)) = false ∧ election w h v =
          (w.enterView (wrap64 (w.n.view + 1))).emit (.send [leaderId w.n.cfg (wrap64 (w.n.view + 1))]
            (.viewChange (C09.voteOnTimeout (w.enterView (wrap64 (w.n.view + 1))).n)))))) := by
  unfold election
  by_cases hh : h = w.n.cfg.height
  case neg => exact Or.inl ⟨Or.inl hh, if_pos (by simp [hh])⟩
  by_cases hv : v = w.n.view
  case neg => exact Or.inl ⟨Or.inr (Or.inl hv), if_pos (by simp [hv])⟩
  subst hh hv
  rw [if_neg (by simp)]
  dsimp only
  rw [initView_eq]
  by_cases hgt : w.n.view > wrap64 (w.n.view + 1)
  · exact Or.inl ⟨Or.inr (Or.inr hgt), by rw [if_pos hgt]; rfl⟩
  refine Or.inr ⟨rfl, rfl, Nat.le_of_not_gt hgt, ?_⟩
  rw [if_neg hgt]
  dsimp only
  rw [if_neg (c := (!true) = true) Bool.false_ne_true]
  cases hl : isLeader w.n.cfg w.n.cfg.me (wrap64 (w.n.view + 1))
  · exact Or.inr ⟨rfl, if_neg (by show ¬ isLeader w.n.cfg w.n.cfg.me _ = true; rw [hl]; exact Bool.false_ne_true)⟩
  · exact Or.inl ⟨rfl, if_pos (by show isLeader w.n.cfg w.n.cfg.me _ = true; exact hl)⟩

/-- the tail of `startTerm`: the leader of view 0 logs and sends its PREPREPARE -/
def sendPreprepare (w : W) (b : Block) : W :=
  ({ w with n := { w.n with store := w.n.store.storePP ⟨⟨mkRef w.n.cfg tPP 0 b.hash, mySig w.n.cfg⟩, some b⟩ } } : W).emit
    (.send (others w.n.cfg) (.preprepare ⟨⟨mkRef w.n.cfg tPP 0 b.hash, mySig w.n.cfg⟩, some b⟩))

theorem startTerm_cases (w : W) (c : Bool) :
    (0 < w.n.view ∧ startTerm w c = { w with n := { w.n with prepared := none } }) ∨
    (w.n.view = 0 ∧
      ((((w.n.cfg.height > 1 ∧ c = false) ∨ isLeader w.n.cfg w.n.cfg.me 0 = false) ∧
          startTerm w c = ({ w with n := { w.n with prepared := none } } : W).enterView 0) ∨
       (¬ (w.n.cfg.height > 1 ∧ c = false) ∧ isLeader w.n.cfg w.n.cfg.me 0 = true ∧
        (((askProposal (({ w with n := { w.n with prepared := none } } : W).enterView 0) w.n.cfg.height 0).2 = none ∧
            startTerm w c = (askProposal (({ w with n := { w.n with prepared := none } } : W).enterView 0) w.n.cfg.height 0).1) ∨
         (∃ b, (askProposal (({ w with n := { w.n with prepared := none } } : W).enterView 0) w.n.cfg.height 0).2 = some b ∧
            startTerm w c =
              sendPreprepare (askProposal (({ w with n := { w.n with prepared := none } } : W).enterView 0) w.n.cfg.height 0).1 b))))) := by
  unfold startTerm
  dsimp only
  rw [initView_eq]
  by_cases hgt : w.n.view > 0
  · exact Or.inl ⟨hgt, by rw [if_pos hgt]; rfl⟩
  refine Or.inr ⟨Nat.eq_zero_of_not_pos hgt, ?_⟩
  rw [if_neg hgt]
  dsimp only
  rw [if_neg (c := (!true) = true) Bool.false_ne_true]
  generalize hw1 : W.enterView _ 0 = w1
  have hc : w1.n.cfg = w.n.cfg := by rw [← hw1]; rfl
  rw [hc]
  by_cases h1 : (decide (w.n.cfg.height > 1) && !c) = true
  · exact Or.inl ⟨Or.inl (by simpa using h1), by rw [if_pos h1]⟩
  by_cases h2 : (!isLeader w.n.cfg w.n.cfg.me 0) = true
  · exact Or.inl ⟨Or.inr (by simpa using h2), by rw [if_neg h1, if_pos h2]⟩
  refine Or.inr ⟨by simpa using h1, by simpa using h2, ?_⟩
  rw [if_neg h1, if_neg h2]
  cases (askProposal w1 w.n.cfg.height 0).2 with
  | none => exact Or.inl ⟨rfl, rfl⟩
  | some b => exact Or.inr ⟨b, rfl, rfl⟩

end LeanHelix.Term
