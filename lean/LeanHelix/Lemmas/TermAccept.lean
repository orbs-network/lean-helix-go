import LeanHelix.Lemmas.TermActs
/-!
# The accepting path: what adopting a proposal does, and that a PREPARE is sent in no other way

`Lemmas/TermCalls.lean` says when an event adopts the proposal it carries (`handlePrePrepare_accept_cases`,
`handleNewView_accept_cases`).  Here: what the adoption does (`Adopted`, `adopts`) — the proposal is the stored
proposal of its (height, view), the node's PREPARE for it is the one PREPARE sent, the view stays — and the statement for every event of which the theorems "who can make a node send PREPARE"
(C07), "a PREPARE answers an authentic proposal that is then stored" (C10) and "an adopted proposal was validated or
is certified" (C04) are readings: `stepW_prepare_cases`.
-/
namespace LeanHelix.Term
open LeanHelix LeanHelix.Msg

structure Adopted (w : W) (ppm : PPMsg) (w' : W) : Prop where
  view : w'.n.view = w.n.view
  stored : w'.n.store.getPP ppm.c.header.height ppm.c.header.view = some ppm
  sent : ∃ l, w'.outs = w.outs ++ Out.send (others w.n.cfg)
      (.prepare (ownPrepare w.n.cfg ppm.c.header.height ppm.c.header.view ppm.c.header.hash)) :: l ∧ ∀ o ∈ l, NP o

theorem adopts (w : W) (ppm : PPMsg) (hnone : w.n.store.getPP ppm.c.header.height ppm.c.header.view = none) :
    Adopted w ppm (checkPreparedLocally (adoptState w ppm) ppm.c.header.height ppm.c.header.view ppm.c.header.hash) := by
  have hev := checkPreparedLocally_ev (adoptState w ppm) ppm.c.header.height ppm.c.header.view ppm.c.header.hash
  have hv := checkPreparedLocally_view (adoptState w ppm) ppm.c.header.height ppm.c.header.view ppm.c.header.hash
  obtain ⟨l, el, pl⟩ := checkPreparedLocally_appends (adoptState w ppm) ppm.c.header.height ppm.c.header.view ppm.c.header.hash
  exact ⟨hv.1, hev.getPP_stable _ _ _ (apply_getPP_stable _ (.prepare _) _ _ _ (storePP_getPP_new _ _ hnone)),
    l, by rw [el]; simp [adoptState, W.emit], pl⟩

theorem Adopted.of_eq {w w' : W} {ppm : PPMsg}
    (e : w' = checkPreparedLocally (adoptState w ppm) ppm.c.header.height ppm.c.header.view ppm.c.header.hash)
    (hnone : w.n.store.getPP ppm.c.header.height ppm.c.header.view = none) : Adopted w ppm w' := e ▸ adopts w ppm hnone

theorem Adopted.prepare_eq {w w' : W} {ppm : PPMsg} (h : Adopted w ppm w') {rs : List Nat} {pm : PMsg}
    (hm : Out.send rs (.prepare pm) ∈ w'.outs) (hnot : Out.send rs (.prepare pm) ∉ w.outs) :
    pm = ownPrepare w.n.cfg ppm.c.header.height ppm.c.header.view ppm.c.header.hash := by
  obtain ⟨l, el, pl⟩ := h.sent
  rw [el, List.mem_append, List.mem_cons] at hm
  rcases hm with hm | hm | hm
  · exact absurd hm hnot
  · cases hm; rfl
  · cases pl _ hm

theorem Adopted.grows {w w' : W} {ppm : PPMsg} (h : Adopted w ppm w') {o : Out} (ho : o ∈ w.outs) : o ∈ w'.outs := by
  obtain ⟨l, el, _⟩ := h.sent
  rw [el]; exact List.mem_append_left _ ho

/-- **An event makes a node send a PREPARE only by adopting the proposal it carries.**  Either the event adds no
PREPARE; or it carries a proposal `ppm` (`AccSrc`: a stand-alone PREPREPARE that respects the node's lock, or the
proposal of a NEW_VIEW that passed every check) which is authentic for the node, and adopts it in a state `w1`
reached by calls to the consumer and `initView`, in `ppm`'s view — after the consumer approved it, unless the event
is a NEW_VIEW whose votes carry a lock. -/
theorem stepW_prepare_cases (w : W) (e : Event) :
    (∀ rs pm, Out.send rs (.prepare pm) ∈ (stepW w e).outs → Out.send rs (.prepare pm) ∈ w.outs) ∨
    ∃ ppm w1, AccSrc e w.n ppm ∧ C08.PreprepareAuthentic w.n ppm ∧ Appends BenignOnly w w1 ∧ w1.n.cfg = w.n.cfg
      ∧ w1.n.view = ppm.c.header.view ∧ Adopted w1 ppm (stepW w e)
      ∧ ((∀ nvm, e = .deliver (.newView nvm) → latestVote nvm.header.votes = none) →
          ∃ cd rest, w.spi = Spi.verdict true cd :: rest
            ∧ Out.callValidate ppm.c.header.height ppm.block ppm.c.header.hash ∈ w1.outs) := by
  have silent : ∀ {e}, Appends NP w (stepW w e) → ∀ rs pm, Out.send rs (.prepare pm) ∈ (stepW w e).outs →
      Out.send rs (.prepare pm) ∈ w.outs := fun ⟨l, el, pl⟩ rs pm hm =>
    (List.mem_append.mp (el ▸ hm)).resolve_right fun hl => Bool.noConfusion (pl _ hl)
  cases e with
  | deliver m =>
    cases m with
    | preprepare m =>
      have hc := askValidate_calls w m.c.header.height m.c.header.view m.block m.c.header.hash
      rcases handlePrePrepare_accept_cases w m with ⟨_, h⟩ | ⟨⟨ha, hl, hv, hok⟩, e1⟩
      · exact .inl (silent (h.appends NP_benign))
      · obtain ⟨_, cd, rest, _, hspi, _⟩ := askValidate_true hok
        exact .inr ⟨m, _, .inl ⟨rfl, hl⟩, ha, hc.appends benignOnly_benign, hc.n.cfg, hc.n.view.trans hv,
          .of_eq e1 (by rw [hc.n.store]; exact ha.free),
          fun _ => ⟨cd, rest, hspi, askValidate_called hok⟩⟩
    | newView m =>
      have hc := nvAsk_calls w m
      have i := nvEnter_spec (nvAsk w m).1 m.header.view
      rcases handleNewView_accept_cases w m with ⟨_, h⟩ | ⟨⟨g, ha, hok⟩, hv, e1⟩
      · exact .inl (silent (h.appends NP_benign))
      · have hent := nvEnter_appends benignOnly_benign (nvAsk w m).1 m.header.view
        refine .inr ⟨⟨m.pp, m.block⟩, _, .inr ⟨m, rfl, rfl, g⟩, ha, (hc.appends benignOnly_benign).trans hent, i.cfg.trans hc.n.cfg,
          hv.trans g.ppView.symm, .of_eq e1 (by rw [i.store, hc.n.store]; exact ha.free), fun hno => ?_⟩
        -- no vote carries a lock: the consumer was asked about the embedded proposal, which is for the NEW_VIEW's height
        have hask : nvAsk w m = askValidate w m.header.height m.header.view m.block m.pp.header.hash := by
          unfold nvAsk; rw [hno m rfl]; rfl
        rw [hask] at hok hent ⊢
        obtain ⟨_, cd, rest, _, hspi, _⟩ := askValidate_true hok
        obtain ⟨l, el, _⟩ := hent
        exact ⟨cd, rest, hspi, by
          rw [el, show (⟨m.pp, m.block⟩ : PPMsg).c.header.height = m.header.height from g.ppHeight]
          exact List.mem_append_left _ (askValidate_called hok)⟩
    | _ => exact .inl (silent ((stepW_acts w _).appends (NP_emits id)))
  | _ => exact .inl (silent ((stepW_acts w _).appends (NP_emits id)))

end LeanHelix.Term
