import LeanHelix.Lemmas.TermHandlers
/-!
# Effects, and the calls to the consumer

`askValidate` and `askProposal` (and with them `ctxFor`, `cancelMeanwhile`, `nvAsk`) do three things
to the working context and nothing else: they operate on the context registry, they emit effects that are
neither sends nor callbacks (`BenignOnly`), and they take SPI answers.  `Calls w w'` says so, once per function; that
such a step leaves the rest of the node alone (`Calls.n`), appends only harmless effects (`Calls.appends`) and
is a sequence of actions (`Calls.acts`, in `Lemmas/TermActs.lean`) is then proved about `Calls`.  With it the accepting
path is said once: `handlePrePrepare_accept_cases`, `handleNewView_accept_cases`.
-/
namespace LeanHelix.Term
open LeanHelix LeanHelix.Msg

/-! ## effects appended by a step -/

def Appends (P : Out → Prop) (w w' : W) : Prop := ∃ l, w'.outs = w.outs ++ l ∧ ∀ o ∈ l, P o

theorem Appends.refl (P) (w : W) : Appends P w w := ⟨[], by simp, by simp⟩

theorem Appends.of_outs_eq {P} {w w' : W} (h : w'.outs = w.outs) : Appends P w w' := ⟨[], by simp [h], by simp⟩

theorem Appends.trans {P} {a b c : W} (h1 : Appends P a b) (h2 : Appends P b c) : Appends P a c := by
  obtain ⟨l1, e1, p1⟩ := h1
  obtain ⟨l2, e2, p2⟩ := h2
  refine ⟨l1 ++ l2, by rw [e2, e1, List.append_assoc], ?_⟩
  intro o ho; simp at ho; rcases ho with ho | ho
  · exact p1 o ho
  · exact p2 o ho

theorem Appends.emit {P} (w : W) (o : Out) (h : P o) : Appends P w (w.emit o) :=
  ⟨[o], rfl, by intro x hx; simp at hx; subst hx; exact h⟩

theorem Appends.emit_trans {P} {a b : W} (o : Out) (h1 : Appends P a b) (h : P o) : Appends P a (b.emit o) :=
  Appends.trans h1 (Appends.emit b o h)

theorem mem_emit {w : W} {o x : Out} (h : x ∈ (w.emit o).outs) : x ∈ w.outs ∨ x = o := by
  simpa [W.emit] using h

theorem Appends.setN {P} {a b : W} (x : Node) (h : Appends P a b) : Appends P a { b with n := x } := by
  obtain ⟨l, e, p⟩ := h; exact ⟨l, e, p⟩

def isPrepareSend : Out → Bool
  | .send _ (.prepare _) => true
  | _ => false

def NP (o : Out) : Prop := isPrepareSend o = false

theorem prepare_of_isPrepareSend {l : List Out} (h : ∃ o ∈ l, isPrepareSend o = true) :
    ∃ rs pm, Out.send rs (.prepare pm) ∈ l := by
  obtain ⟨o, ho, hs⟩ := h
  cases o with
  | send rs m =>
    cases m with
    | prepare pm => exact ⟨rs, pm, ho⟩
    | _ => cases hs
  | _ => cases hs

/-- a predicate on effects that holds of everything that is not a send or a commit -/
structure Benign (P : Out → Prop) : Prop where
  reg : ∀ h v, P (.registerElection h v)
  req : ∀ h, P (.callRequest h)
  val : ∀ h b x, P (.callValidate h b x)
  pan : ∀ s, P (.goPanic s)

theorem NP_benign : Benign NP := ⟨fun _ _ => rfl, fun _ => rfl, fun _ _ _ => rfl, fun _ => rfl⟩

def BenignOnly (o : Out) : Prop :=
  (∃ h v, o = .registerElection h v) ∨ (∃ h, o = .callRequest h) ∨ (∃ h b x, o = .callValidate h b x) ∨ (∃ s, o = .goPanic s)

theorem benignOnly_benign : Benign BenignOnly :=
  ⟨fun h v => Or.inl ⟨h, v, rfl⟩, fun h => Or.inr (Or.inl ⟨h, rfl⟩), fun h b x => Or.inr (Or.inr (Or.inl ⟨h, b, x, rfl⟩)),
   fun s => Or.inr (Or.inr (Or.inr ⟨s, rfl⟩))⟩

theorem Benign.only {P : Out → Prop} (hP : Benign P) (o : Out) (h : BenignOnly o) : P o := by
  rcases h with ⟨_, _, rfl⟩ | ⟨_, rfl⟩ | ⟨_, _, _, rfl⟩ | ⟨_, rfl⟩
  · exact hP.reg _ _
  · exact hP.req _
  · exact hP.val _ _ _
  · exact hP.pan _

theorem benignOnly_not_send (o : Out) (h : BenignOnly o) : ∀ rs m, o ≠ .send rs m := by
  intro rs m e
  rcases h with ⟨_, _, rfl⟩ | ⟨_, rfl⟩ | ⟨_, _, _, rfl⟩ | ⟨_, rfl⟩ <;> cases e

theorem Appends.send_mem {w w' : W} (h : Appends BenignOnly w w') {rs : List Nat} {m : Message}
    (hm : Out.send rs m ∈ w'.outs) : Out.send rs m ∈ w.outs := by
  obtain ⟨l, el, pl⟩ := h
  rw [el] at hm
  exact (List.mem_append.mp hm).resolve_right fun hl => benignOnly_not_send _ (pl _ hl) rs m rfl

/-! ## the calls to the consumer -/

def W.regOp (w : W) (op : Contexts.Op) : W := { w with n := { w.n with reg := (Contexts.step w.n.reg op).1 } }

structure RegOnly (a b : Node) : Prop where
  cfg : b.cfg = a.cfg
  store : b.store = a.store
  view : b.view = a.view
  prepared : b.prepared = a.prepared
  committed : b.committed = a.committed
  latestNV : b.latestNV = a.latestNV

theorem RegOnly.refl (a : Node) : RegOnly a a := ⟨rfl, rfl, rfl, rfl, rfl, rfl⟩

inductive Calls : W → W → Prop
  | refl (w : W) : Calls w w
  | reg {w w' : W} (op : Contexts.Op) (h : Calls (w.regOp op) w') : Calls w w'
  | out {w w' : W} (o : Out) (ho : BenignOnly o) (h : Calls (w.emit o) w') : Calls w w'
  | pop {w w' : W} (rest : List Spi) (h : Calls { w with spi := rest } w') : Calls w w'

theorem Calls.n {w w' : W} (h : Calls w w') : RegOnly w.n w'.n := by
  induction h with
  | refl => exact .refl _
  | reg op _ ih => exact ⟨ih.cfg, ih.store, ih.view, ih.prepared, ih.committed, ih.latestNV⟩
  | out _ _ _ ih => exact ih
  | pop _ _ ih => exact ih

theorem Calls.appends {P} (hP : Benign P) {w w' : W} (h : Calls w w') : Appends P w w' := by
  induction h with
  | refl => exact .refl _ _
  | reg _ _ ih => exact ih
  | out o ho _ ih => exact (Appends.emit _ o (hP.only o ho)).trans ih
  | pop _ _ ih => exact ih

theorem Calls.of_eq {w w' : W} (h : w' = w) : Calls w w' := h ▸ .refl w

theorem ctxFor_calls (w : W) (h v : Nat) : Calls w (ctxFor w h v).1 := .reg (.for_ ⟨h, v⟩) (.refl _)

theorem cancelMeanwhile_calls (w : W) (cd : Option Nat) : Calls w (cancelMeanwhile w cd) := by
  cases cd with
  | none => exact .refl w
  | some v => exact .reg (.cancelOlderThan ⟨w.n.cfg.height, v⟩) (.refl _)

theorem cancelMeanwhile_outs (w : W) (cd : Option Nat) : (cancelMeanwhile w cd).outs = w.outs := by
  cases cd <;> rfl

theorem askValidate_calls (w : W) (h v : Nat) (b : Option Block) (hash : Nat) : Calls w (askValidate w h v b hash).1 := by
  rcases askValidate_cases w h v b hash with ⟨_, e⟩ | ⟨_, _, ⟨_, cd, rest, _, e⟩ | ⟨_, e⟩⟩ <;> rw [e]
  · exact ctxFor_calls w h v
  · exact .reg (.for_ ⟨h, v⟩) (.out _ (benignOnly_benign.val h b hash) (.pop rest (cancelMeanwhile_calls _ cd)))
  · exact .reg (.for_ ⟨h, v⟩) (.out _ (benignOnly_benign.val h b hash) (.out _ (benignOnly_benign.pan _) (.refl _)))

theorem askValidate_called {w : W} {h v : Nat} {b : Option Block} {hash : Nat} (hok : (askValidate w h v b hash).2 = true) :
    Out.callValidate h b hash ∈ (askValidate w h v b hash).1.outs := by
  obtain ⟨_, cd, _, _, _, e, _⟩ := askValidate_true hok
  rw [e, cancelMeanwhile_outs]
  simp [W.emit]

theorem askProposal_calls (w : W) (h v : Nat) : Calls w (askProposal w h v).1 := by
  rcases askProposal_cases w h v with ⟨_, e⟩ | ⟨_, _, ⟨_, cd, rest, _, e⟩ | ⟨_, e⟩⟩ <;> rw [e]
  · exact ctxFor_calls w h v
  · exact .reg (.for_ ⟨h, v⟩) (.out _ (benignOnly_benign.req h) (.pop rest (cancelMeanwhile_calls _ cd)))
  · exact .reg (.for_ ⟨h, v⟩) (.out _ (benignOnly_benign.req h) (.out _ (benignOnly_benign.pan _) (.refl _)))

theorem nvAsk_calls (w : W) (nvm : NVMsg) : Calls w (nvAsk w nvm).1 := by
  unfold nvAsk
  split
  · exact askValidate_calls ..
  · exact .refl w

/-! ## when a proposal is adopted

An event that carries a proposal either does nothing but call the consumer (`Calls`), or adopts the proposal: the
handler is then `checkPreparedLocally` on the state in which the proposal and the node's PREPARE are logged and the
PREPARE is sent (`adoptState`).  Safety reads these lemmas from right to left (a PREPARE was sent, so the conditions
held), liveness from left to right. -/

def PPAccepts (w : W) (ppm : PPMsg) : Prop :=
  C08.PreprepareAuthentic w.n ppm ∧ lockConflict w.n ppm = false ∧ w.n.view = ppm.c.header.view
  ∧ (askValidate w ppm.c.header.height ppm.c.header.view ppm.block ppm.c.header.hash).2 = true

theorem handlePrePrepare_accept_cases (w : W) (ppm : PPMsg) :
    (¬ PPAccepts w ppm ∧ Calls w (handlePrePrepare w ppm)) ∨
    (PPAccepts w ppm ∧ handlePrePrepare w ppm =
      checkPreparedLocally (adoptState (askValidate w ppm.c.header.height ppm.c.header.view ppm.block ppm.c.header.hash).1 ppm)
        ppm.c.header.height ppm.c.header.view ppm.c.header.hash) := by
  have hc := askValidate_calls w ppm.c.header.height ppm.c.header.view ppm.block ppm.c.header.hash
  rcases handlePrePrepare_cases w ppm with ⟨hn, e⟩ | ⟨ha, ⟨hl, e⟩ | ⟨hl, ⟨hf, e⟩ | ⟨hok, e⟩⟩⟩
  · exact .inl ⟨fun a => hn a.1, .of_eq e⟩
  · exact .inl ⟨fun a => Bool.noConfusion (hl.symm.trans a.2.1), .of_eq e⟩
  · exact .inl ⟨fun a => Bool.noConfusion (hf.symm.trans a.2.2.2), e ▸ hc⟩
  · rcases processPreprepare_cases (askValidate w ppm.c.header.height ppm.c.header.view ppm.block ppm.c.header.hash).1 ppm
      with ⟨hv, e2⟩ | ⟨hv, e2⟩
    · exact .inl ⟨fun a => hv (hc.n.view.trans a.2.2.1), by rw [e, e2]; exact hc⟩
    · exact .inr ⟨⟨ha, hl, hc.n.view.symm.trans hv, hok⟩, e.trans e2⟩

def NVAccepts (w : W) (nvm : NVMsg) : Prop :=
  NVGuards w.n nvm ∧ C08.PreprepareAuthentic w.n ⟨nvm.pp, nvm.block⟩ ∧ (nvAsk w nvm).2 = true

theorem handleNewView_accept_cases (w : W) (nvm : NVMsg) :
    (¬ NVAccepts w nvm ∧ Calls w (handleNewView w nvm)) ∨
    (NVAccepts w nvm ∧ (nvEnter (nvAsk w nvm).1 nvm.header.view).1.n.view = nvm.header.view ∧ handleNewView w nvm =
      checkPreparedLocally (adoptState (nvEnter (nvAsk w nvm).1 nvm.header.view).1 ⟨nvm.pp, nvm.block⟩)
        nvm.pp.header.height nvm.pp.header.view nvm.pp.header.hash) := by
  have hc := nvAsk_calls w nvm
  have i := nvEnter_spec (nvAsk w nvm).1 nvm.header.view
  -- `validatePreprepare` after the consumer call sees the node `handleNewView` started with
  have hval : validatePreprepare (nvAsk w nvm).1.n ⟨nvm.pp, nvm.block⟩ = true ↔ C08.PreprepareAuthentic w.n ⟨nvm.pp, nvm.block⟩ :=
    (C08.validatePreprepare_iff _ _).trans ⟨fun h => h.congr hc.n.cfg.symm hc.n.store.symm, fun h => h.congr hc.n.cfg hc.n.store⟩
  rcases handleNewView_cases w nvm with ⟨hn, e⟩ | ⟨g, e⟩
  · exact .inl ⟨fun a => hn a.1, .of_eq e⟩
  rw [e]
  rcases adoptNewView_cases w nvm with ⟨h, e⟩ | ⟨hok, hv, ⟨h, _⟩ | ⟨hent, e⟩⟩
  · refine .inl ⟨fun a => ?_, e ▸ hc⟩
    rcases h with h | h
    · rw [a.2.2] at h; cases h
    · rw [hval.mpr a.2.1] at h; cases h
  · -- `initView` does not refuse: the NEW_VIEW's view is not below the node's
    rw [nvEnter_ok (by rw [hc.n.view]; exact g.view)] at h; cases h
  · have hview := i.view hent
    exact .inr ⟨⟨g, hval.mp hv, hok⟩, hview,
      e.trans (processPreprepare_unfold _ _ (hview.trans g.ppView.symm))⟩

/-! ## what the commit and prepare paths leave alone -/

theorem checkCommitted_n (w : W) (h v hash : Nat) :
    (checkCommitted w h v hash).n.cfg = w.n.cfg ∧ (checkCommitted w h v hash).n.store = w.n.store
    ∧ (checkCommitted w h v hash).n.view = w.n.view ∧ (checkCommitted w h v hash).n.prepared = w.n.prepared
    ∧ (checkCommitted w h v hash).n.latestNV = w.n.latestNV := by
  obtain ⟨c1, c2, c3, c4, _, c6⟩ := (ctxFor_calls w h maxView).n
  rcases checkCommitted_cases w h v hash with ⟨_, e⟩ | ⟨b, _, ⟨_, e⟩ | ⟨_, e⟩⟩ <;> rw [e]
  · exact ⟨rfl, rfl, rfl, rfl, rfl⟩
  · exact ⟨c1, c2, c3, c4, c6⟩
  · rw [commitW_n]
    exact ⟨c1, c2, c3, c4, c6⟩

theorem onPreparedLocally_n (w : W) (h v hash : Nat) :
    (onPreparedLocally w h v hash).n.cfg = w.n.cfg
    ∧ (onPreparedLocally w h v hash).n.store = w.n.store.storeCommit (ownCommit w.n.cfg h v hash)
    ∧ (onPreparedLocally w h v hash).n.view = w.n.view ∧ (onPreparedLocally w h v hash).n.prepared = some v
    ∧ (onPreparedLocally w h v hash).n.latestNV = w.n.latestNV := by
  rw [onPreparedLocally_eq]
  obtain ⟨c1, c2, c3, c4, c5⟩ := checkCommitted_n (preparedW w h v hash) h v hash
  exact ⟨c1, c2, c3, c4, c5⟩

theorem checkPreparedLocally_view (w : W) (h v hash : Nat) :
    (checkPreparedLocally w h v hash).n.view = w.n.view ∧ (checkPreparedLocally w h v hash).n.cfg = w.n.cfg := by
  rcases checkPreparedLocally_cases w h v hash with ⟨_, e⟩ | ⟨_, e⟩ <;> rw [e]
  · exact ⟨rfl, rfl⟩
  · obtain ⟨c1, _, c3, _⟩ := onPreparedLocally_n w h v hash; exact ⟨c3, c1⟩

theorem checkPreparedLocally_prepares (w : W) (h v hash : Nat) :
    (checkPreparedLocally w h v hash).n.store.prepares = w.n.store.prepares := by
  rcases checkPreparedLocally_cases w h v hash with ⟨_, e⟩ | ⟨_, e⟩
  · rw [e]
  · rw [e, (onPreparedLocally_n w h v hash).2.1, storeCommit_prepares]

/-! ## what entering a view and the election path emit -/

theorem initView_appends {P} (hP : Benign P) (w : W) (v : Nat) : Appends P w (initView w v).1 := by
  unfold initView
  split
  · exact Appends.refl _ _
  · exact Appends.emit _ _ (hP.reg _ _)

theorem askValidate_appends (w : W) (h v : Nat) (b : Option Block) (hash : Nat) :
    Appends NP w (askValidate w h v b hash).1 := (askValidate_calls w h v b hash).appends NP_benign

theorem nvEnter_appends {P} (hP : Benign P) (w : W) (v : Nat) : Appends P w (nvEnter w v).1 :=
  initView_appends hP _ v

/-- `onElectedByViewChange` for whoever does not care whether the consumer was asked: after `nvEnter` and calls to the
consumer only (`w1`) the node stops, or it sends the NEW_VIEW for the block the votes lock or the consumer handed over -/
theorem onElectedByViewChange_sends (w : W) (view : Nat) (vcs : List VCMsg) :
    ∃ w1, Calls (nvEnter w view).1 w1 ∧
      (onElectedByViewChange w view vcs = w1 ∨
       ((nvEnter w view).2 = true ∧ ∃ b hash,
          (latestBlockFromVCs vcs = some (b, hash)
            ∨ (latestBlockFromVCs vcs = none ∧ hash = b.hash
                ∧ askProposal (nvEnter w view).1 (nvEnter w view).1.n.cfg.height view = (w1, some b)))
          ∧ onElectedByViewChange w view vcs = sendNewView w1 (nvEnter w view).1.n.cfg.height view vcs b hash)) := by
  have p := askProposal_calls (nvEnter w view).1 (nvEnter w view).1.n.cfg.height view
  rcases onElectedByViewChange_cases w view vcs with ⟨_, e⟩ | ⟨hok, ⟨b, hash, hl, e⟩ | ⟨hl, ⟨_, e⟩ | ⟨b, hb, e⟩⟩⟩
  · exact ⟨_, .refl _, .inl e⟩
  · exact ⟨_, .refl _, .inr ⟨hok, b, hash, .inl hl, e⟩⟩
  · exact ⟨_, p, .inl e⟩
  · exact ⟨_, p, .inr ⟨hok, b, b.hash, .inr ⟨hl, rfl, Prod.ext rfl hb⟩, e⟩⟩

theorem onElectedByViewChange_appends' {P} (hB : Benign P) (w : W) (view : Nat) (vcs : List VCMsg)
    (hnv : ∀ b hash, (latestBlockFromVCs vcs = some (b, hash) ∨ (latestBlockFromVCs vcs = none ∧ hash = b.hash)) →
      P (.send (others w.n.cfg) (.newView ⟨⟨tNV, w.n.cfg.inst, w.n.cfg.height, view, vcs.map (·.c)⟩, mySig w.n.cfg,
        ⟨mkRef w.n.cfg tPP view hash, mySig w.n.cfg⟩, some b⟩))) :
    Appends P w (onElectedByViewChange w view vcs) := by
  obtain ⟨w1, c, e1 | ⟨_, b, hash, hsel, e1⟩⟩ := onElectedByViewChange_sends w view vcs <;> rw [e1]
  · exact (nvEnter_appends hB w view).trans (c.appends hB)
  · refine Appends.emit_trans _ (Appends.setN _ ((nvEnter_appends hB w view).trans (c.appends hB))) ?_
    rw [c.n.cfg, (nvEnter_spec w view).cfg]
    exact hnv b hash (hsel.imp_right fun h => ⟨h.1, h.2.1⟩)

theorem onElectedByViewChange_appends (w : W) (view : Nat) (vcs : List VCMsg) :
    Appends NP w (onElectedByViewChange w view vcs) := onElectedByViewChange_appends' NP_benign w view vcs (fun _ _ _ => rfl)

theorem checkElected_appends' {P} (hB : Benign P) (hnv : ∀ rs m, P (.send rs (.newView m)))
    (w : W) (h view : Nat) : Appends P w (checkElected w h view) := by
  rcases checkElected_cases w h view with ⟨_, e1⟩ | ⟨_, _, e1⟩ <;> rw [e1]
  · exact Appends.refl _ _
  · exact onElectedByViewChange_appends' hB w view _ (fun _ _ _ => hnv _ _)

theorem checkElected_appends (w : W) (h view : Nat) : Appends NP w (checkElected w h view) :=
  checkElected_appends' NP_benign (fun _ _ => rfl) w h view

end LeanHelix.Term
