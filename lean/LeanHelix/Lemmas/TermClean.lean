import LeanHelix.Lemmas.TermActs
/-!
# Every logged message carries the node's instance id and the term's height

`Clean n op`: the message inserted by `op` is for the node's instance and the term's height.
Each handler only inserts the message it was given (or the proposal embedded in a NEW_VIEW, whose
instance id and height the handler checks) and messages it creates itself, so if the delivered
message is clean (the worker's filter guarantees that) the log stays clean (`LogClean`).
-/
namespace LeanHelix.Term
open LeanHelix LeanHelix.Msg

def Clean (n : Node) : StoreOp → Prop
  | .pp m => m.c.header.inst = n.cfg.inst ∧ m.c.header.height = n.cfg.height
  | .prepare m => m.header.inst = n.cfg.inst ∧ m.header.height = n.cfg.height
  | .commit m => m.header.inst = n.cfg.inst ∧ m.header.height = n.cfg.height
  | .vc m => m.c.header.inst = n.cfg.inst ∧ m.c.header.height = n.cfg.height

structure LogClean (n : Node) : Prop where
  pps : ∀ m ∈ n.store.pps, m.c.header.inst = n.cfg.inst ∧ m.c.header.height = n.cfg.height
  prepares : ∀ m ∈ n.store.prepares, m.header.inst = n.cfg.inst ∧ m.header.height = n.cfg.height
  commits : ∀ m ∈ n.store.commits, m.header.inst = n.cfg.inst ∧ m.header.height = n.cfg.height
  vcs : ∀ m ∈ n.store.vcs, m.c.header.inst = n.cfg.inst ∧ m.c.header.height = n.cfg.height

theorem logClean_init (c : Cfg) : LogClean { cfg := c } :=
  ⟨(by intro m h; cases h), (by intro m h; cases h), (by intro m h; cases h), (by intro m h; cases h)⟩

theorem logClean_apply (n : Node) (op : StoreOp) (h : LogClean n) (hop : Clean n op) :
    LogClean { n with store := n.store.apply op } :=
  ⟨fun x hx => (mem_apply_pps hx).elim (h.pps x) (fun e => by subst e; exact hop),
   fun x hx => (mem_apply_prepares hx).elim (h.prepares x) (fun e => by subst e; exact hop),
   fun x hx => (mem_apply_commits hx).elim (h.commits x) (fun e => by subst e; exact hop),
   fun x hx => (mem_apply_vcs hx).elim (h.vcs x) (fun e => by subst e; exact hop)⟩

def EventClean (n : Node) : Event → Prop
  | .deliver m => msgInstT m = n.cfg.inst ∧ msgHeightT m = n.cfg.height
  | _ => True

theorem EventClean.of_cfg {a b : Node} {e : Event} (hc : b.cfg = a.cfg) (h : EventClean a e) : EventClean b e := by
  cases e with
  | deliver m => unfold EventClean at h ⊢; rw [hc]; exact h
  | _ => trivial

theorem LogClean.of_store {a b : Node} (h : LogClean a) (hc : b.cfg = a.cfg) (hs : b.store = a.store) : LogClean b :=
  ⟨by rw [hc, hs]; exact h.pps, by rw [hc, hs]; exact h.prepares, by rw [hc, hs]; exact h.commits, by rw [hc, hs]; exact h.vcs⟩

variable {e : Event}

theorem clean_of_evOp {n : Node} {op : StoreOp} (he : EventClean n e) (hop : evOp e = some op) : Clean n op := by
  cases e with
  | deliver m => cases m <;> cases hop <;> exact he
  | _ => cases hop

theorem AccSrc.clean {n : Node} {ppm : PPMsg} (he : EventClean n e) (h : AccSrc e n ppm) : Clean n (.pp ppm) := by
  rcases h with ⟨rfl, _⟩ | ⟨nvm, rfl, rfl, g⟩
  · exact he
  · exact ⟨g.ppInst, g.ppHeight.trans he.2⟩

theorem Act.logClean {a b : W} (he : EventClean a.n e) (h : Act e a b) (hi : LogClean a.n) : LogClean b.n := by
  cases h with
  | log op hop hj => exact logClean_apply _ op hi (clean_of_evOp he hop)
  | accept ppm hsrc hauth hv =>
    have hc := hsrc.clean he
    exact logClean_apply _ _ (logClean_apply _ _ hi hc) ⟨rfl, hc.2⟩
  | prepared h v hash hce hc =>
    -- the node's COMMIT takes its height from a stored proposal, which is clean already
    obtain ⟨ppm, hg, _⟩ := PreparedCond.pp hc
    obtain ⟨hm, hh, _⟩ := getPP_spec hg
    exact (logClean_apply a.n (.commit (ownCommit a.n.cfg h v hash)) hi ⟨rfl, hh ▸ (hi.pps ppm hm).2⟩).of_store rfl rfl
  | propose b hash v o hv hlead ho => exact logClean_apply _ _ hi ⟨rfl, rfl⟩
  | voteStore vc hj hown => exact logClean_apply _ _ hi hown
  | _ => exact hi.of_store rfl rfl

theorem Acts.logClean {a b : W} (h : Acts e a b) (he : EventClean a.n e) (hi : LogClean a.n) : LogClean b.n := by
  induction h with
  | refl => exact hi
  | cons h1 _ ih => exact ih (he.of_cfg h1.cfg) (h1.logClean he hi)

/-- **every event of a filtered stream keeps the log clean** -/
theorem step_clean (n : Node) (e : Event) (spi : List Spi) (he : EventClean n e) (h : LogClean n) :
    LogClean (step n e spi).1 := by
  rw [step_eq]; exact (stepW_acts { n := n, spi := spi } e).logClean he h

end LeanHelix.Term
