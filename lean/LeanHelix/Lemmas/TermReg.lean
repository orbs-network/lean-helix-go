import LeanHelix.Lemmas.TermActs
import LeanHelix.Props.C15Registry
/-!
# The term only ever applies registry operations to its context registry

`RegRun a b`: `b` is `a` after some list of `Contexts` operations.  Of the primitive actions of
`Lemmas/TermActs.lean` only `reg` touches the registry, and it applies one operation (`Act.rr`); so every event of the
term relates its node's registry before and after in this way (`step_regRun`), and the registry invariant of C15
(`C15.Inv`: live contexts are issued, not cancelled and not stale; ids are fresh; …) — proved in
`Props/C15Registry.lean` for every sequence of operations — holds of the registry inside every reachable term state
(`step_regInv`), and with it the theorems proved there (a context handed out is live, …).
-/
namespace LeanHelix.Term
open LeanHelix LeanHelix.Msg LeanHelix.Contexts

def RegRun (a b : Reg) : Prop := ∃ ops, b = Contexts.run a ops

theorem RegRun.refl (a : Reg) : RegRun a a := ⟨[], rfl⟩

theorem RegRun.trans {a b c : Reg} (h1 : RegRun a b) (h2 : RegRun b c) : RegRun a c := by
  obtain ⟨o1, rfl⟩ := h1
  obtain ⟨o2, rfl⟩ := h2
  exact ⟨o1 ++ o2, (C15.run_append a o1 o2).symm⟩

theorem RegRun.one (a : Reg) (op : Op) : RegRun a (Contexts.step a op).1 := ⟨[op], rfl⟩

theorem RegRun.inv {a b : Reg} (h : RegRun a b) (ha : C15.Inv a) : C15.Inv b := by
  obtain ⟨ops, rfl⟩ := h
  exact C15.run_induct C15.inv_step a ops ha

theorem Act.rr {e : Event} {a b : W} (h : Act e a b) : RegRun a.n.reg b.n.reg := by
  cases h with
  | reg op => exact .one _ op
  | _ => exact .refl _

theorem Acts.rr {e : Event} {a b : W} (h : Acts e a b) : RegRun a.n.reg b.n.reg :=
  h.rel (R := fun a b => RegRun a.n.reg b.n.reg) (fun _ => .refl _) .trans Act.rr

/-- **one event of the term changes its registry by registry operations only** -/
theorem step_regRun (n : Node) (e : Event) (spi : List Spi) : RegRun n.reg (step n e spi).1.reg := by
  rw [step_eq]; exact (stepW_acts { n := n, spi := spi } e).rr

theorem step_regInv (n : Node) (e : Event) (spi : List Spi) (h : C15.Inv n.reg) : C15.Inv (step n e spi).1.reg :=
  (step_regRun n e spi).inv h

end LeanHelix.Term
