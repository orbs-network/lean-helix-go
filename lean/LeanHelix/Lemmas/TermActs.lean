import LeanHelix.Lemmas.TermCalls
/-!
# Every event of the term is a sequence of primitive actions

`Act e w w'`: one thing the code of `Model/Term.lean` does to the working context while it handles the
event `e` — a registry operation, an effect that is neither a send nor a callback, taking an SPI answer,
moving the view, clearing the prepared view at the start of the term, logging the delivered message, adopting a
proposal, becoming prepared, the late COMMIT, the commit callback, the node's own proposal, its own vote — together
with what the code has checked at that moment.  `handle_acts`, `election_acts`, `startTerm_acts` walk the handlers once;
an invariant of the node, or a relation between the context before and after, is then proved by
looking at the fourteen kinds of action (`Acts.rel`) and never at a handler again.

What the actions do not record is their order: statements such as "the view does not move after the
PREPARE was sent" are proved from the case lemmas of `Lemmas/TermHandlers.lean`.
-/
namespace LeanHelix.Term
open LeanHelix LeanHelix.Msg

/-- what justifies each insert into the message log: the message passed its handler's checks, or it is the node's own -/
def J (n : Node) : StoreOp → Prop
  | .commit cm =>
      C08.CommitAuthentic n cm
      -- or the node's own COMMIT on becoming prepared
      ∨ (cm = ownCommit n.cfg cm.header.height cm.header.view cm.header.hash
          ∧ PreparedCond n cm.header.height cm.header.view cm.header.hash)
  | .prepare pm =>
      C08.PrepareAuthentic n pm
      -- or the node's own PREPARE for the proposal it has just stored
      ∨ (pm = ownPrepare n.cfg pm.header.height pm.header.view pm.header.hash ∧ n.view = pm.header.view
          ∧ ∃ ppm, n.store.getPP pm.header.height pm.header.view = some ppm ∧ ppm.c.header.hash = pm.header.hash)
  | .pp ppm =>
      -- a received proposal (bare or inside a NEW_VIEW) that passed validatePreprepare in the node's current view
      (C08.PreprepareAuthentic n ppm ∧ n.view = ppm.c.header.view)
      -- or the node's own proposal as leader
      ∨ (ppm.c.sender = mySig n.cfg ∧ ppm.c.header.mtype = tPP ∧ ppm.c.header.inst = n.cfg.inst
          ∧ ppm.c.header.height = n.cfg.height ∧ ppm.block.isSome = true ∧ n.view = ppm.c.header.view
          ∧ isLeader n.cfg n.cfg.me ppm.c.header.view = true)
  | .vc vcm =>
      VCGuards n vcm
      -- or the vote of a node that leads the view it moves to
      ∨ (vcm.c.sender = mySig n.cfg ∧ vcm.c.header.view = n.view ∧ isLeader n.cfg n.cfg.me n.view = true)

def evOp : Event → Option StoreOp
  | .deliver (.prepare m) => some (.prepare m)
  | .deliver (.commit m) => some (.commit m)
  | .deliver (.viewChange m) => some (.vc m)
  | _ => none

theorem evOp_ne_pp {e : Event} {m : PPMsg} : evOp e ≠ some (.pp m) := by
  cases e with
  | deliver x => cases x <;> simp [evOp]
  | _ => simp [evOp]

def W.log (w : W) (op : StoreOp) : W := { w with n := { w.n with store := w.n.store.apply op } }

/-- where an adopted proposal comes from, and what was checked on the way.  `n` is the node the checks were made on:
the node at adoption in `Act.accept` (after the consumer call and `initView`), the node at the start of the event in
`stepW_prepare_cases`; the two differ in the view, the bookkeeping value and the registry only -/
def AccSrc (e : Event) (n : Node) (ppm : PPMsg) : Prop :=
  (e = .deliver (.preprepare ppm) ∧ lockConflict n ppm = false)
  ∨ ∃ nvm, e = .deliver (.newView nvm) ∧ ppm = ⟨nvm.pp, nvm.block⟩ ∧ NVGuards n nvm

def ElectEv : Event → Prop
  | .election _ _ => True
  | .deliver (.viewChange _) => True
  | _ => False

def PropEv : Event → Prop
  | .deliver (.preprepare _) => True
  | .deliver (.newView _) => True
  | _ => False

/-- instance id and height of a delivered message (`ConsensusMessage.InstanceId / BlockHeight`) -/
def msgInstT : Message → Nat
  | .preprepare m => m.c.header.inst
  | .prepare m => m.header.inst
  | .commit m => m.header.inst
  | .viewChange m => m.c.header.inst
  | .newView m => m.header.inst

def msgHeightT : Message → Nat
  | .preprepare m => m.c.header.height
  | .prepare m => m.header.height
  | .commit m => m.header.height
  | .viewChange m => m.c.header.height
  | .newView m => m.header.height

end LeanHelix.Term

namespace LeanHelix.C08
/-- the handler call of `handInTerm` as a Term-level step -/
def handle (tw : Term.W) : Msg.Message → Term.W
  | .preprepare x => Term.handlePrePrepare tw x
  | .prepare x => Term.handlePrepare tw x
  | .commit x => Term.handleCommit tw x
  | .viewChange x => Term.handleViewChange tw x
  | .newView x => Term.handleNewView tw x
end LeanHelix.C08

namespace LeanHelix.Term
open LeanHelix LeanHelix.Msg

/-- `step` on the working context (`step_eq`) -/
def stepW (w : W) : Event → W
  | .start c => startTerm w c
  | .deliver m => C08.handle w m
  | .election h v => election w h v
  | .cancelOlder h v => w.regOp (.cancelOlderThan ⟨h, v⟩)

theorem step_eq (n : Node) (e : Event) (spi : List Spi) :
    step n e spi = ((stepW { n := n, spi := spi } e).n, (stepW { n := n, spi := spi } e).outs) := by
  cases e with
  | deliver m => cases m <;> rfl
  | _ => rfl

/-- the events in which a node can become prepared or commit -/
def CommitEv : Event → Prop
  | .deliver (.viewChange _) => False
  | .deliver _ => True
  | _ => False

def CommitAt (e : Event) (h : Nat) : Prop := CommitEv e ∧ ∀ m, e = .deliver m → msgHeightT m = h

def targetView : Event → Option Nat
  | .start _ => some 0
  | .election _ v => some (wrap64 (v + 1))
  | .deliver (.newView m) => some m.header.view
  | .deliver (.viewChange m) => some m.c.header.view
  | _ => none

def ownPP (c : Cfg) (v : Nat) (b : Block) (hash : Nat) : PPMsg := ⟨⟨mkRef c tPP v hash, mySig c⟩, some b⟩

/-- `checkCommitted` and `checkPreparedLocally` serve several events; for their own lemmas a COMMIT delivery of
the height in question stands for all of them -/
theorem commitAt_any (h : Nat) : ∃ e, ¬ PropEv e ∧ CommitAt e h :=
  ⟨.deliver (.commit ⟨⟨0, 0, h, 0, 0⟩, default, true⟩), id, trivial, fun _ h => by cases h; rfl⟩

theorem AccSrc.propEv {e : Event} {n : Node} {ppm : PPMsg} (h : AccSrc e n ppm) : PropEv e := by
  rcases h with ⟨rfl, _⟩ | ⟨_, rfl, _⟩ <;> trivial

theorem AccSrc.commitAt {e : Event} {n : Node} {ppm : PPMsg} (h : AccSrc e n ppm) : CommitAt e ppm.c.header.height := by
  rcases h with ⟨rfl, _⟩ | ⟨nvm, rfl, rfl, g⟩
  · exact ⟨trivial, fun _ h => by cases h; rfl⟩
  · exact ⟨trivial, fun _ h => by cases h; exact g.ppHeight.symm⟩

inductive Act (e : Event) : W → W → Prop
  | reg (w : W) (op : Contexts.Op) : Act e w (w.regOp op)
  | out (w : W) (o : Out) (ho : BenignOnly o) : Act e w (w.emit o)
  | pop (w : W) (rest : List Spi) : Act e w { w with spi := rest }
  | view (w : W) (v : Nat) (ht : targetView e = some v) (h : w.n.view ≤ v) : Act e w (w.enterView v)
  /-- the bookkeeping value and the view move to `v` together (`adoptNewView`, `onElectedByViewChange`) -/
  | enter (w : W) (v : Nat) (ht : targetView e = some v) (h : w.n.view ≤ v) :
      Act e w (({ w with n := { w.n with latestNV := v } } : W).enterView v)
  | unprepare (w : W) : Act e w { w with n := { w.n with prepared := none } }
  /-- the delivered PREPARE / COMMIT / VIEW_CHANGE passed its handler's checks and is logged -/
  | log (w : W) (op : StoreOp) (he : evOp e = some op) (hj : J w.n op) : Act e w (w.log op)
  /-- `processPreprepare`: proposal and own PREPARE are logged, the PREPARE is sent -/
  | accept (w : W) (ppm : PPMsg) (hsrc : AccSrc e w.n ppm) (hauth : C08.PreprepareAuthentic w.n ppm)
      (hv : w.n.view = ppm.c.header.view) :
      Act e w (((w.log (.pp ppm)).log
          (.prepare (ownPrepare w.n.cfg ppm.c.header.height ppm.c.header.view ppm.c.header.hash))).emit
        (.send (others w.n.cfg) (.prepare (ownPrepare w.n.cfg ppm.c.header.height ppm.c.header.view ppm.c.header.hash))))
  /-- `onPreparedLocally`, first half -/
  | prepared (w : W) (h v hash : Nat) (hce : CommitAt e h) (hc : PreparedCond w.n h v hash) :
      Act e w (preparedW w h v hash)
  /-- `sendCommitIfNotAlreadySent` -/
  | late (w : W) (h v hash : Nat) (b : Block) (hce : CommitAt e h) (hc : CommitCond w.n h v hash b) :
      Act e w (w.emit (.send (others w.n.cfg) (.commit (ownCommit w.n.cfg h v hash))))
  /-- the commit callback -/
  | decide (w : W) (h v hash : Nat) (b : Block) (hce : CommitAt e h) (hc : CommitCond w.n h v hash b) :
      Act e w (({ w with n := { w.n with committed := some b } } : W).emit (.commit b (w.n.store.getCommits h v hash)))
  /-- the leader's own proposal: the PREPREPARE of view 0 at the start of the term, or the NEW_VIEW of
  the view it has just been elected for -/
  | propose (w : W) (b : Block) (hash v : Nat) (o : Out) (hv : w.n.view = v) (hlead : isLeader w.n.cfg w.n.cfg.me v = true)
      (ho : ((∃ c, e = .start c) ∧ v = 0 ∧ o = .send (others w.n.cfg) (.preprepare (ownPP w.n.cfg v b hash)))
        ∨ (ElectEv e ∧ w.n.latestNV = v ∧ ∃ vcs : List VCMsg, o = .send (others w.n.cfg)
            (.newView ⟨⟨tNV, w.n.cfg.inst, w.n.cfg.height, v, vcs.map (·.c)⟩, mySig w.n.cfg, (ownPP w.n.cfg v b hash).c, some b⟩))) :
      Act e w ((w.log (.pp (ownPP w.n.cfg v b hash))).emit o)
  /-- the vote of a node that leads the view it moves to: logged -/
  | voteStore (w : W) (vc : VCMsg) (hj : J w.n (.vc vc))
      (hown : vc.c.header.inst = w.n.cfg.inst ∧ vc.c.header.height = w.n.cfg.height) : Act e w (w.log (.vc vc))
  /-- the vote of any other node: sent to the leader of the view it moves to -/
  | voteSend (w : W) (vc : VCMsg) (he : ∃ h v, e = .election h v) (hv : vc.c.header.view = w.n.view)
      (hs : vc.c.sender = mySig w.n.cfg) :
      Act e w (w.emit (.send [leaderId w.n.cfg w.n.view] (.viewChange vc)))

inductive Acts (e : Event) : W → W → Prop
  | refl (w : W) : Acts e w w
  | cons {a b c : W} : Act e a b → Acts e b c → Acts e a c

variable {e : Event}

theorem Acts.one {a b : W} (h : Act e a b) : Acts e a b := .cons h (.refl b)

theorem Acts.trans {a b c : W} (h1 : Acts e a b) (h2 : Acts e b c) : Acts e a c := by
  induction h1 with
  | refl => exact h2
  | cons h _ ih => exact .cons h (ih h2)

theorem Acts.of_eq {a b : W} (h : b = a) : Acts e a b := by rw [h]; exact .refl a

theorem Acts.rel {R : W → W → Prop} (hrefl : ∀ w, R w w) (htrans : ∀ {a b c}, R a b → R b c → R a c)
    (hact : ∀ {a b}, Act e a b → R a b) {a b : W} (h : Acts e a b) : R a b := by
  induction h with
  | refl w => exact hrefl w
  | cons h _ ih => exact htrans (hact h) ih

theorem Acts.inv {I : Node → Prop} (hact : ∀ {a b}, Act e a b → I a.n → I b.n) {a b : W} (h : Acts e a b) :
    I a.n → I b.n :=
  Acts.rel (R := fun a b => I a.n → I b.n) (fun _ => id) (fun h1 h2 h => h2 (h1 h)) hact h

/-! ## the walk -/

theorem Calls.acts {w w' : W} (h : Calls w w') : Acts e w w' := by
  induction h with
  | refl w => exact .refl w
  | reg op _ ih => exact .cons (.reg _ op) ih
  | out o ho _ ih => exact .cons (.out _ o ho) ih
  | pop rest _ ih => exact .cons (.pop _ rest) ih

theorem checkCommitted_acts (w : W) (h v hash : Nat) (hce : CommitAt e h) : Acts e w (checkCommitted w h v hash) := by
  rcases checkCommitted_cases w h v hash with ⟨_, e1⟩ | ⟨b, hc, ⟨_, e1⟩ | ⟨_, e1⟩⟩ <;> rw [e1]
  · exact .refl w
  · exact (ctxFor_calls w h maxView).acts
  · refine (ctxFor_calls w h maxView).acts.trans ?_
    have hc : CommitCond (ctxFor w h maxView).1.n h v hash b := hc
    unfold commitW
    dsimp only
    split
    · exact .one (.decide _ h v hash b hce hc)
    · exact .cons (.late _ h v hash b hce hc) (.one (.decide _ h v hash b hce hc))

theorem checkPreparedLocally_acts (w : W) (h v hash : Nat) (hce : CommitAt e h) : Acts e w (checkPreparedLocally w h v hash) := by
  rcases checkPreparedLocally_cases w h v hash with ⟨_, e1⟩ | ⟨hc, e1⟩ <;> rw [e1]
  · exact .refl w
  · exact .cons (.prepared w h v hash hce hc) (checkCommitted_acts _ h v hash hce)

theorem handlePrepare_acts (w : W) (pm : PMsg) : Acts (.deliver (.prepare pm)) w (handlePrepare w pm) := by
  rcases handlePrepare_cases w pm with c | ⟨ha, e1⟩
  · exact .of_eq c.2
  · rw [e1]
    exact .cons (.log w (.prepare pm) rfl (Or.inl ha)) (checkPreparedLocally_acts _ _ _ _ ⟨trivial, fun _ h => by cases h; rfl⟩)

theorem handleCommit_acts (w : W) (cm : CMsg) : Acts (.deliver (.commit cm)) w (handleCommit w cm) := by
  rcases handleCommit_cases w cm with c | ⟨ha, e1⟩
  · exact .of_eq c.2
  · rw [e1]
    exact .cons (.log w (.commit cm) rfl (Or.inl ha)) (checkCommitted_acts _ _ _ _ ⟨trivial, fun _ h => by cases h; rfl⟩)

theorem adopt_acts (w : W) (ppm : PPMsg) (hsrc : AccSrc e w.n ppm) (hauth : C08.PreprepareAuthentic w.n ppm)
    (hv : w.n.view = ppm.c.header.view) :
    Acts e w (checkPreparedLocally (adoptState w ppm) ppm.c.header.height ppm.c.header.view ppm.c.header.hash) :=
  .cons (.accept w ppm hsrc hauth hv) (checkPreparedLocally_acts _ _ _ _ hsrc.commitAt)

theorem handlePrePrepare_acts (w : W) (ppm : PPMsg) : Acts (.deliver (.preprepare ppm)) w (handlePrePrepare w ppm) := by
  have c := askValidate_calls w ppm.c.header.height ppm.c.header.view ppm.block ppm.c.header.hash
  rcases handlePrePrepare_accept_cases w ppm with ⟨_, h⟩ | ⟨⟨ha, hl, hv, _⟩, e1⟩
  · exact h.acts
  · rw [e1]
    exact c.acts.trans (adopt_acts _ ppm (Or.inl ⟨rfl, (lockConflict_congr c.n.prepared (by rw [c.n.store]) ppm).trans hl⟩)
      (ha.congr c.n.cfg c.n.store) (c.n.view.trans hv))

theorem nvEnter_acts (w : W) (v : Nat) (ht : targetView e = some v) (hv : w.n.view ≤ v) : Acts e w (nvEnter w v).1 := by
  unfold nvEnter
  rw [initView_eq, if_neg (Nat.not_lt.mpr hv)]
  exact .one (.enter w v ht hv)

theorem handleNewView_acts (w : W) (nvm : NVMsg) : Acts (.deliver (.newView nvm)) w (handleNewView w nvm) := by
  have c := nvAsk_calls w nvm
  have i := nvEnter_spec (nvAsk w nvm).1 nvm.header.view
  rcases handleNewView_accept_cases w nvm with ⟨_, h⟩ | ⟨⟨g, ha, _⟩, hv, e1⟩
  · exact h.acts
  · have hc : (nvEnter (nvAsk w nvm).1 nvm.header.view).1.n.cfg = w.n.cfg := i.cfg.trans c.n.cfg
    rw [e1]
    refine (c.acts.trans (nvEnter_acts _ _ rfl (by rw [c.n.view]; exact g.view))).trans
      (adopt_acts _ _ (Or.inr ⟨nvm, rfl, rfl, ?_⟩) (ha.congr hc (i.store.trans c.n.store)) (hv.trans g.ppView.symm))
    exact ⟨g.mtype, by rw [hv]; exact Nat.le_refl _, g.sig, by rw [hc]; exact g.leader,
      (validateVotes_cfg hc _ _ _).trans g.votes, g.ppView, g.ppHeight, by rw [hc]; exact g.ppInst, (lockOk_cfg hc nvm).trans g.lock⟩

theorem onElectedByViewChange_acts (w : W) (view : Nat) (vcs : List VCMsg) (hel : ElectEv e)
    (ht : targetView e = some view) (hv : w.n.view ≤ view) (hlead : isLeader w.n.cfg w.n.cfg.me view = true) :
    Acts e w (onElectedByViewChange w view vcs) := by
  have i := nvEnter_spec w view
  obtain ⟨w1, c, e1 | ⟨hok, b, hash, _, e1⟩⟩ := onElectedByViewChange_sends w view vcs <;> rw [e1]
  · exact (nvEnter_acts w view ht hv).trans c.acts
  · refine ((nvEnter_acts w view ht hv).trans c.acts).trans (.one (.propose _ b hash _ _ (c.n.view.trans (i.view hok))
      (by rw [c.n.cfg, i.cfg]; exact hlead) (Or.inr ⟨hel, c.n.latestNV.trans i.latestNV, vcs, ?_⟩)))
    rw [c.n.cfg]; rfl

theorem checkElected_acts (w : W) (h view : Nat) (hel : ElectEv e) (ht : targetView e = some view) (hv : w.n.view ≤ view)
    (hlead : isLeader w.n.cfg w.n.cfg.me view = true) : Acts e w (checkElected w h view) := by
  rcases checkElected_cases w h view with ⟨_, e1⟩ | ⟨_, _, e1⟩ <;> rw [e1]
  · exact .refl w
  · exact onElectedByViewChange_acts w view _ hel ht hv hlead

theorem handleViewChange_acts (w : W) (vcm : VCMsg) : Acts (.deliver (.viewChange vcm)) w (handleViewChange w vcm) := by
  rcases handleViewChange_cases w vcm with c | ⟨g, e1⟩
  · exact .of_eq c.2
  · rw [e1]
    exact .cons (.log w (.vc vcm) rfl (Or.inl g)) (checkElected_acts _ _ _ trivial rfl g.2.1 g.1)

theorem election_acts (w : W) (h v : Nat) : Acts (.election h v) w (election w h v) := by
  rcases election_cases w h v with ⟨_, e1⟩ | ⟨hh, rfl, hle, ⟨hl, e1⟩ | ⟨_, e1⟩⟩ <;> rw [e1]
  · exact .refl w
  · exact .cons (.view w _ rfl hle) (.cons (.voteStore _ _ (Or.inr ⟨rfl, rfl, hl⟩) ⟨rfl, rfl⟩)
      (checkElected_acts _ _ _ trivial rfl (Nat.le_refl _) hl))
  · exact .cons (.view w _ rfl hle) (.one (.voteSend _ _ ⟨h, _, rfl⟩ rfl rfl))

theorem startTerm_acts (w : W) (c : Bool) : Acts (.start c) w (startTerm w c) := by
  rcases startTerm_cases w c with ⟨_, e1⟩ | ⟨hv, ⟨_, e1⟩ | ⟨_, hl, ⟨_, e1⟩ | ⟨b, _, e1⟩⟩⟩ <;> rw [e1]
  · exact .one (.unprepare w)
  all_goals refine .cons (.unprepare w) (.cons (.view _ 0 rfl (Nat.le_of_eq hv)) ?_)
  · exact .refl _
  · exact (askProposal_calls _ _ _).acts
  · obtain ⟨p1, _, p3, _⟩ := (askProposal_calls (({ w with n := { w.n with prepared := none } } : W).enterView 0) w.n.cfg.height 0).n
    exact (askProposal_calls _ _ _).acts.trans
      (.one (.propose _ b b.hash _ _ p3 (by rw [p1]; exact hl) (Or.inl ⟨⟨c, rfl⟩, rfl, rfl⟩)))


theorem handle_acts (w : W) (m : Message) : Acts (.deliver m) w (C08.handle w m) := by
  cases m with
  | preprepare m => exact handlePrePrepare_acts w m
  | prepare m => exact handlePrepare_acts w m
  | commit m => exact handleCommit_acts w m
  | viewChange m => exact handleViewChange_acts w m
  | newView m => exact handleNewView_acts w m

theorem stepW_acts (w : W) (e : Event) : Acts e w (stepW w e) := by
  cases e with
  | start c => exact startTerm_acts w c
  | deliver m => exact handle_acts w m
  | election h v => exact election_acts w h v
  | cancelOlder h v => exact .one (.reg w _)

/-! ## what the actions emit -/

/-- `P` holds of everything the event `e` can make a node emit -/
structure Emits (e : Event) (P : Out → Prop) : Prop where
  benign : ∀ o, BenignOnly o → P o
  commit : CommitEv e → ∀ rs m, P (.send rs (.commit m))
  cb : CommitEv e → ∀ b cs, P (.commit b cs)
  prepare : PropEv e → ∀ rs m, P (.send rs (.prepare m))
  pp : (∃ c, e = .start c) → ∀ rs m, P (.send rs (.preprepare m))
  nv : ElectEv e → ∀ rs m, P (.send rs (.newView m))
  vc : (∃ h v, e = .election h v) → ∀ rs m, P (.send rs (.viewChange m))

theorem Act.appends {P : Out → Prop} (hP : Emits e P) {a b : W} (h : Act e a b) : Appends P a b := by
  cases h with
  | out o ho => exact Appends.emit _ _ (hP.benign o ho)
  | view v ht hv => exact Appends.emit _ _ (hP.benign _ (benignOnly_benign.reg _ _))
  | enter v ht hv => exact Appends.emit _ _ (hP.benign _ (benignOnly_benign.reg _ _))
  | accept ppm hsrc hauth hv => exact Appends.emit _ _ (hP.prepare hsrc.propEv _ _)
  | prepared h v hash hce hc => exact Appends.emit _ _ (hP.commit hce.1 _ _)
  | late h v hash b hce hc => exact Appends.emit _ _ (hP.commit hce.1 _ _)
  | decide h v hash b hce hc => exact Appends.emit _ _ (hP.cb hce.1 _ _)
  | propose b hash v o hv hlead ho =>
    refine Appends.emit _ _ ?_
    rcases ho with ⟨hs, _, rfl⟩ | ⟨hel, _, _, rfl⟩
    · exact hP.pp hs _ _
    · exact hP.nv hel _ _
  | voteSend vc he hv hs => exact Appends.emit _ _ (hP.vc he _ _)
  | _ => exact Appends.of_outs_eq rfl

theorem Acts.appends {P : Out → Prop} (hP : Emits e P) {a b : W} (h : Acts e a b) : Appends P a b :=
  Acts.rel (R := Appends P) (Appends.refl P) Appends.trans (Act.appends hP) h

theorem NP_emits (he : ¬ PropEv e) : Emits e NP :=
  ⟨NP_benign.only, fun _ _ _ => rfl, fun _ _ _ => rfl, fun h => absurd h he, fun _ _ _ => rfl, fun _ _ _ => rfl, fun _ _ _ => rfl⟩

theorem checkCommitted_appends (w : W) (h v hash : Nat) : Appends NP w (checkCommitted w h v hash) :=
  (commitAt_any h).elim fun _ he => (checkCommitted_acts w h v hash he.2).appends (NP_emits he.1)

theorem checkPreparedLocally_appends (w : W) (h v hash : Nat) : Appends NP w (checkPreparedLocally w h v hash) :=
  (commitAt_any h).elim fun _ he => (checkPreparedLocally_acts w h v hash he.2).appends (NP_emits he.1)

/-! ## what the actions do to the configuration and the log -/

theorem Act.cfg {a b : W} (h : Act e a b) : b.n.cfg = a.n.cfg := by cases h <;> rfl

theorem Act.evolves {a b : W} (h : Act e a b) : Evolves J a.n b.n := by
  cases h with
  | log op he hj => exact .insert op hj
  | accept ppm hsrc hauth hv =>
    exact .trans (.insert (.pp ppm) (Or.inl ⟨hauth, hv⟩))
      (.insert (.prepare _) (Or.inr ⟨rfl, hv, ppm, storePP_getPP_new _ _ hauth.free, rfl⟩))
  | prepared h v hash hce hc =>
    exact .trans (.insert (.commit (ownCommit a.n.cfg h v hash)) (Or.inr ⟨rfl, hc⟩)) (.other ⟨rfl, rfl⟩)
  | propose b hash v o hv hlead ho => exact .insert (.pp _) (Or.inr ⟨rfl, rfl, rfl, rfl, rfl, hv, hlead⟩)
  | voteStore vc hj hown => exact .insert (.vc vc) hj
  | _ => exact .other ⟨rfl, rfl⟩

theorem Acts.evolves {a b : W} (h : Acts e a b) : Evolves J a.n b.n :=
  Acts.rel (R := fun a b => Evolves J a.n b.n) (fun _ => .refl _) .trans Act.evolves h

theorem Acts.cfg {a b : W} (h : Acts e a b) : b.n.cfg = a.n.cfg := h.evolves.cfg

/-- **every event changes the message log only by justified inserts, and never changes the configuration** -/
theorem step_ev (n : Node) (e : Event) (spi : List Spi) : Evolves J n (step n e spi).1 := by
  rw [step_eq]; exact (stepW_acts { n := n, spi := spi } e).evolves

theorem checkPreparedLocally_ev (w : W) (h v hash : Nat) : Evolves J w.n (checkPreparedLocally w h v hash).n :=
  (commitAt_any h).elim fun _ he => (checkPreparedLocally_acts w h v hash he.2).evolves

end LeanHelix.Term
