import LeanHelix.Lemmas.TermViews
import LeanHelix.Lemmas.TermOwn
import LeanHelix.Lemmas.TermCalls
import LeanHelix.Lemmas.TermActs
/-!
# The term's code as a sequence of atomic blocks that make statements

The abstract safety argument (`Spec/Safety.lean`) is about the *statements* a correct node makes:
"I accept (v,h)" (`acc`: a PREPARE, or the leader's own PREPREPARE / NEW_VIEW), "I am prepared on
(v,h)" (`com`: the COMMIT sent on becoming prepared), "I saw a commit quorum for (v,h)" (`lcom`: the
COMMIT sent by `sendCommitIfNotAlreadySent`), "I vote for view v with proof pf" (`vote`) and "I
deliver h" (`dec`).  This file cuts every handler of the term model into **atomic blocks** (`Blk`):
a block changes the node, appends effects, and makes a (possibly empty) list of statements; each kind
of block records the facts about the node state *at that moment* that the code has checked.
`Runs w w' g`: `w'` is reached from `w` by a sequence of blocks that make the statements `g`.

The handler pass below (`*_runs`) shows that every handler is such a sequence, and `Runs.erase`
that the statements made are exactly the statement-carrying effects the handler emits
(`stmtOf`), in order — the ghost list adds only the tag com/lcom, the tag "accepted through a
NEW_VIEW", and the leader's own vote (which is stored, not sent).
-/
namespace LeanHelix.Term
open LeanHelix LeanHelix.Msg

/-- statements of one node (ghost events) -/
inductive LEv where
  | acc (v h : Nat) (viaNV : Bool)
  | com (v h : Nat)
  | lcom (v h : Nat)
  | vote (v : Nat) (pf : Option (Nat × Nat)) (sent : Bool)
  | dec (h : Nat)
deriving Repr, DecidableEq

/-- what a statement-carrying effect says -/
inductive Stmt where
  | acc (v h : Nat)
  | cmt (v h : Nat)
  | vote (v : Nat) (pf : Option (Nat × Nat))
  | dec (h : Nat)
deriving Repr, DecidableEq

/-- the (view, hash) a prepared proof certifies -/
def pfOf (p : Option Proof) : Option (Nat × Nat) := p.map (fun p => (p.ppRef.view, p.ppRef.hash))

/-- the hash a commit callback's COMMIT list certifies (the callback gets the logged COMMITs of one
(height, view, hash), never an empty list) -/
def commitHash : List CMsg → Nat
  | c :: _ => c.header.hash
  | [] => 0

def stmtOf : Out → Option Stmt
  | .send _ (.preprepare m) => some (.acc m.c.header.view m.c.header.hash)
  | .send _ (.prepare m) => some (.acc m.header.view m.header.hash)
  | .send _ (.newView m) => some (.acc m.pp.header.view m.pp.header.hash)
  | .send _ (.commit m) => some (.cmt m.header.view m.header.hash)
  | .send _ (.viewChange m) => some (.vote m.c.header.view (pfOf m.c.header.proof))
  | .commit _ cs => some (.dec (commitHash cs))
  | _ => none

def erase : LEv → Option Stmt
  | .acc v h _ => some (.acc v h)
  | .com v h => some (.cmt v h)
  | .lcom v h => some (.cmt v h)
  | .vote v pf true => some (.vote v pf)
  | .vote _ _ false => none
  | .dec h => some (.dec h)

theorem erase_eq_acc {x : LEv} {v h : Nat} (he : Term.erase x = some (.acc v h)) : ∃ f, x = .acc v h f := by
  cases x with
  | acc v' h' f => simp only [Term.erase, Option.some.injEq, Stmt.acc.injEq] at he; obtain ⟨rfl, rfl⟩ := he; exact ⟨f, rfl⟩
  | vote _ _ s => cases s <;> simp [Term.erase] at he
  | _ => simp [Term.erase] at he

theorem erase_eq_vote {x : LEv} {v : Nat} {pf : Option (Nat × Nat)} (he : Term.erase x = some (.vote v pf)) :
    x = .vote v pf true := by
  cases x with
  | vote v' pf' s =>
    cases s <;> simp only [Term.erase, Option.some.injEq, Stmt.vote.injEq, reduceCtorEq] at he
    obtain ⟨rfl, rfl⟩ := he; rfl
  | _ => simp [Term.erase] at he

theorem mem_erase_acc {T : List LEv} {v h : Nat} (hm : Stmt.acc v h ∈ T.filterMap Term.erase) : ∃ f, LEv.acc v h f ∈ T := by
  obtain ⟨x, hx, he⟩ := List.mem_filterMap.mp hm
  obtain ⟨f, rfl⟩ := erase_eq_acc he
  exact ⟨f, hx⟩

/-- the proof a node attaches to its vote: the one extracted for its prepared view -/
def voteProof (n : Node) : Option Proof :=
  match n.prepared with
  | some pv => (extractProof n pv).map (fun (x : Proof × Option Block) => x.1)
  | none => none

/-- the block a node attaches to its vote: the block of the proposal it is prepared on -/
def voteBlock (n : Node) : Option Block :=
  match n.prepared with
  | some pv => (extractProof n pv).bind (fun (x : Proof × Option Block) => x.2)
  | none => none

/-- the VIEW_CHANGE a node builds when the election timer of its view fires (`moveToNextLeaderByElection`) -/
def ownVote (n : Node) : VCMsg :=
  ⟨⟨⟨tVC, n.cfg.inst, n.cfg.height, n.view, voteProof n⟩, mySig n.cfg⟩, voteBlock n⟩

/-- bookkeeping that makes no statement: the view and `latestNV` may go up, other members' PREPAREs,
COMMITs and votes may be logged; stored proposals and the prepared view stay -/
structure Quiet (a b : Node) : Prop where
  cfg : b.cfg = a.cfg
  view : a.view ≤ b.view
  lnv : a.latestNV ≤ b.latestNV
  prepared : b.prepared = a.prepared
  pps : b.store.pps = a.store.pps
  prepares : a.store.prepares <+: b.store.prepares

theorem Quiet.refl (a : Node) : Quiet a a := ⟨rfl, Nat.le_refl _, Nat.le_refl _, rfl, rfl, List.prefix_refl _⟩

theorem Quiet.trans {a b c : Node} (h1 : Quiet a b) (h2 : Quiet b c) : Quiet a c :=
  ⟨h2.cfg.trans h1.cfg, Nat.le_trans h1.view h2.view, Nat.le_trans h1.lnv h2.lnv, h2.prepared.trans h1.prepared,
   h2.pps.trans h1.pps, List.IsPrefix.trans h1.prepares h2.prepares⟩

theorem Quiet.of_eqs {a b : Node} (h1 : b.cfg = a.cfg) (h2 : b.store = a.store) (h3 : b.view = a.view)
    (h4 : b.prepared = a.prepared) (h5 : b.latestNV = a.latestNV) : Quiet a b :=
  ⟨h1, by omega, by omega, h4, by rw [h2], by rw [h2]; exact List.prefix_refl _⟩

theorem quiet_apply (a : Node) {op : StoreOp} (hop : ∀ m, op ≠ .pp m) : Quiet a { a with store := a.store.apply op } := by
  refine ⟨rfl, Nat.le_refl _, Nat.le_refl _, rfl, ?_, (Net.storeLe_apply a.store op).prepares⟩
  cases op with
  | pp m => exact absurd rfl (hop m)
  | _ => simp [Store.apply]

/-- the node after `processPreprepare` stored the proposal and the own PREPARE -/
def acceptNode (a : Node) (ppm : PPMsg) : Node :=
  { a with store := (a.store.storePP ppm).storePrepare (ownPrepare a.cfg ppm.c.header.height ppm.c.header.view ppm.c.header.hash) }

/-- the node after `onPreparedLocally` set the prepared view and logged the own COMMIT -/
def preparedNode (a : Node) (v hash : Nat) : Node :=
  { a with prepared := some v, store := a.store.storeCommit (ownCommit a.cfg a.cfg.height v hash) }

/-- what `handleNewView` has checked before it adopts the embedded proposal: the votes are a quorum of
valid votes of pairwise distinct members for exactly (height, view), the embedded proposal is for the
same (instance, height, view), and it is bound to the highest-view proof among the votes -/
def NVChecked (c : Cfg) (nvm : NVMsg) : Prop :=
  validateVotes { cfg := c } nvm.header.height nvm.header.view nvm.header.votes = true
  ∧ nvm.pp.header.view = nvm.header.view ∧ nvm.pp.header.height = nvm.header.height
  ∧ nvm.pp.header.inst = c.inst
  ∧ lockOk { cfg := c } nvm = true

/-- where an adopted proposal came from: the delivered PREPREPARE itself, or the proposal embedded in
the delivered NEW_VIEW after the certificate checks -/
def PPSrc (e : Event) (c : Cfg) (ppm : PPMsg) (f : Bool) : Prop :=
  (e = .deliver (.preprepare ppm) ∧ f = false) ∨
  (∃ nvm : NVMsg, e = .deliver (.newView nvm) ∧ ppm = ⟨nvm.pp, nvm.block⟩ ∧ f = true ∧ NVChecked c nvm)

/-- what `checkElected` / `onElectedByViewChange` have established when the leader proposes `hash` in its
NEW_VIEW: the logged votes for the node's (new) view reach quorum, and `hash` is the hash certified by
a highest-view proof among the votes that carry a block — or no vote carries a block and `hash` is that of the block
the consumer handed over, the next SPI answer -/
def ElectedBy (spi0 : List Spi) (a : Node) (hash : Nat) : Prop :=
  ∃ h, isQuorum a.cfg ((a.store.getVCs h a.view).map (·.c.sender.id)) = true
    ∧ ((∃ b, latestBlockFromVCs (a.store.getVCs h a.view) = some (b, hash))
        ∨ (latestBlockFromVCs (a.store.getVCs h a.view) = none
            ∧ ∃ b cd rest, spi0 = Spi.proposal b cd :: rest ∧ hash = b.hash))

/-- the atomic blocks of the handling of event `e` with the SPI answers `spi0` -/
inductive Blk (e : Event) (spi0 : List Spi) : Node → Node → List Out → List LEv → Prop where
  /-- bookkeeping; effects that carry no statement; the log is untouched -/
  | quiet {a b : Node} {l : List Out} (hq : Quiet a b) (hs : b.store = a.store) (hl : ∀ o ∈ l, stmtOf o = none) : Blk e spi0 a b l []
  /-- the delivered PREPARE / COMMIT / VIEW_CHANGE is logged as it is -/
  | log {a : Node} (op : StoreOp) (he : evOp e = some op) : Blk e spi0 a { a with store := a.store.apply op } [] []
  /-- `processPreprepare`: a proposal of the current view is stored together with the own PREPARE,
  which is sent.  No proposal was stored for this view; the node is not this view's leader; in a
  view > 0 the proposal came in a NEW_VIEW or does not conflict with the node's lock; and the consumer's positive
  verdict was the next SPI answer, unless the votes of the NEW_VIEW carry a lock. -/
  | accept {a : Node} (ppm : PPMsg) (f : Bool) (rcpt : List Nat)
      (hh : ppm.c.header.height = a.cfg.height) (hv : ppm.c.header.view = a.view)
      (hnone : a.store.getPP a.cfg.height a.view = none)
      (hnl : isLeader a.cfg a.cfg.me a.view = false)
      (hlock : a.view = 0 ∨ f = true ∨ lockConflict a ppm = false)
      (hsrc : PPSrc e a.cfg ppm f)
      (hval : (f = false ∨ ∃ nvm : NVMsg, e = .deliver (.newView nvm) ∧ latestVote nvm.header.votes = none) →
          ∃ cd rest, spi0 = Spi.verdict true cd :: rest) :
      Blk e spi0 a (acceptNode a ppm)
        [.send rcpt (.prepare (ownPrepare a.cfg ppm.c.header.height ppm.c.header.view ppm.c.header.hash))]
        [.acc ppm.c.header.view ppm.c.header.hash f]
  /-- `onPreparedLocally`, first half: the node becomes prepared in its current view on the stored
  proposal's hash, logs and sends its COMMIT; a prepared proof can be extracted for that view -/
  | prepared {a : Node} (v hash : Nat) (rcpt : List Nat)
      (hv : v = a.view) (hnot : a.prepared ≠ some v)
      (hpp : ∃ ppm, a.store.getPP a.cfg.height v = some ppm ∧ ppm.c.header.hash = hash ∧ ppm.block.isSome = true)
      (hproof : (extractProof a v).isSome = true) :
      Blk e spi0 a (preparedNode a v hash)
        [.send rcpt (.commit (ownCommit a.cfg a.cfg.height v hash))]
        [.com v hash]
  /-- `sendCommitIfNotAlreadySent` inside `checkCommitted`: a commit quorum for (v, hash) is logged -/
  | late {a : Node} (h v hash : Nat) (rcpt : List Nat)
      (hq : isQuorum a.cfg ((a.store.getCommits h v hash).map (·.sender.id)) = true) :
      Blk e spi0 a a [.send rcpt (.commit (ownCommit a.cfg h v hash))] [.lcom v hash]
  /-- the commit callback: a commit quorum for (h, v, hash) is logged and handed over together with the
  block of the stored proposal of (h, v), whose signed hash is `hash` -/
  | decide {a b : Node} (blk : Block) (cs : List CMsg) (h v hash : Nat) (hq : Quiet a b) (hs : b.store = a.store)
      (hcs : cs = a.store.getCommits h v hash)
      (hcq : isQuorum a.cfg (cs.map (·.sender.id)) = true)
      (hpp : ∃ ppm, a.store.getPP h v = some ppm ∧ ppm.block = some blk ∧ ppm.c.header.hash = hash) :
      Blk e spi0 a b [.commit blk cs] [.dec (commitHash cs)]
  /-- the leader's own proposal (PREPREPARE of view 0, or NEW_VIEW after being elected): stored and
  sent; no proposal was stored for this view, and the view is one the leader bookkeeping covers.  Where the
  block comes from is recorded three times, each in the form one reader needs: `hsrc` / `hreq` for the ghost
  history and the origin of the hash (`Net.blk_net`, `Net.blk_origin`), `hblk` for the block invariants (`Net.blk_blocks`), the `match` in `hmsg` with the exact
  NEW_VIEW for what peers validate (`Net.blk_votes`). -/
  | propose {a : Node} (ppm : PPMsg) (f : Bool) (o : Out)
      (hh : ppm.c.header.height = a.cfg.height) (hv : ppm.c.header.view = a.view)
      (hnone : a.store.getPP a.cfg.height a.view = none)
      (hlnv : a.view ≤ a.latestNV)
      (hf : a.view = 0 ∨ f = true)
      (ho : stmtOf o = some (.acc ppm.c.header.view ppm.c.header.hash))
      (hown : ppm.c.sender = mySig a.cfg ∧ ppm.c.header.inst = a.cfg.inst ∧ ppm.c.header.mtype = tPP)
      (hsrc : f = true → ElectedBy spi0 a ppm.c.header.hash)
      (hreq : f = false → ∃ b cd rest, spi0 = Spi.proposal b cd :: rest ∧ ppm.c.header.hash = b.hash)
      (hblk : ∃ b, ppm.block = some b ∧ (b.hash = ppm.c.header.hash
          ∨ ∃ h, latestBlockFromVCs (a.store.getVCs h a.view) = some (b, ppm.c.header.hash)))
      (hmsg : (∃ rcpt, o = .send rcpt (.preprepare ppm))
        ∨ (∃ rcpt nvm h, o = .send rcpt (.newView nvm) ∧ nvm.pp = ppm.c ∧ nvm.header.votes = (a.store.getVCs h a.view).map (·.c)
            ∧ nvm = ⟨⟨tNV, a.cfg.inst, a.cfg.height, a.view, (a.store.getVCs h a.view).map (·.c)⟩, mySig a.cfg, ppm.c, ppm.block⟩
            ∧ isLeader a.cfg a.cfg.me a.view = true
            ∧ isQuorum a.cfg ((a.store.getVCs h a.view).map (·.c.sender.id)) = true
            ∧ (match latestBlockFromVCs (a.store.getVCs h a.view) with
               | some (b', h') => ppm.block = some b' ∧ ppm.c.header.hash = h'
               | none => ∀ b, ppm.block = some b → ppm.c.header.hash = b.hash))) :
      Blk e spi0 a { a with store := a.store.storePP ppm } [o] [.acc ppm.c.header.view ppm.c.header.hash f]
  /-- the vote of a node that is not the next leader: sent -/
  | voteSend {a : Node} (vc : VCMsg) (rcpt : List Nat)
      (hv : vc.c.header.view = a.view) (hp : vc.c.header.proof = voteProof a)
      (hpv : ∀ pv, a.prepared = some pv → pv < a.view)
      (hown : vc.c.sender = mySig a.cfg ∧ vc.c.header.inst = a.cfg.inst ∧ vc.c.header.height = a.cfg.height ∧ vc.c.header.mtype = tVC)
      (hvc : vc = ownVote a) :
      Blk e spi0 a a [.send rcpt (.viewChange vc)] [.vote a.view (pfOf vc.c.header.proof) true]
  /-- the vote of the next leader: logged (it goes out inside the NEW_VIEW) -/
  | voteStore {a : Node} (vc : VCMsg)
      (hv : vc.c.header.view = a.view) (hp : vc.c.header.proof = voteProof a)
      (hown : vc.c.sender = mySig a.cfg ∧ vc.c.header.inst = a.cfg.inst ∧ vc.c.header.height = a.cfg.height ∧ vc.c.header.mtype = tVC)
      (hpv : ∀ pv, a.prepared = some pv → pv < a.view) (hb : vc.block = voteBlock a)
      (hvc : vc = ownVote a) :
      Blk e spi0 a { a with store := a.store.storeVC vc } [] [.vote a.view (pfOf vc.c.header.proof) false]

/-- `w'` is reached from `w` by blocks that make the statements `g` (oldest first) -/
inductive Runs (e : Event) (spi0 : List Spi) : W → W → List LEv → Prop where
  | refl (w : W) : Runs e spi0 w w []
  | blk {w w' : W} {l : List Out} {g : List LEv} (ho : w'.outs = w.outs ++ l) (hb : Blk e spi0 w.n w'.n l g) : Runs e spi0 w w' g
  | trans {a b c : W} {g1 g2 : List LEv} : Runs e spi0 a b g1 → Runs e spi0 b c g2 → Runs e spi0 a c (g1 ++ g2)

variable {e : Event} {spi0 : List Spi}

/-- existential form used by the handler pass -/
def RunsE (e : Event) (spi0 : List Spi) (w w' : W) : Prop := ∃ g, Runs e spi0 w w' g

theorem RunsE.refl (w : W) : RunsE e spi0 w w := ⟨[], .refl w⟩
theorem RunsE.trans {a b c : W} (h1 : RunsE e spi0 a b) (h2 : RunsE e spi0 b c) : RunsE e spi0 a c := by
  obtain ⟨g1, r1⟩ := h1
  obtain ⟨g2, r2⟩ := h2
  exact ⟨g1 ++ g2, .trans r1 r2⟩
theorem RunsE.blk {w w' : W} {l : List Out} {g : List LEv} (ho : w'.outs = w.outs ++ l) (hb : Blk e spi0 w.n w'.n l g) : RunsE e spi0 w w' :=
  ⟨g, .blk ho hb⟩

theorem RunsE.quiet {w w' : W} (hq : Quiet w.n w'.n) (hs : w'.n.store = w.n.store)
    (ha : Appends (fun o => stmtOf o = none) w w') : RunsE e spi0 w w' := by
  obtain ⟨l, e', p⟩ := ha
  exact RunsE.blk e' (.quiet hq hs p)

theorem NS_benign : Benign (fun o => stmtOf o = none) := ⟨fun _ _ => rfl, fun _ => rfl, fun _ _ _ => rfl, fun _ => rfl⟩

theorem RunsE.of_eq {w w' : W} (h : w' = w) : RunsE e spi0 w w' := by rw [h]; exact RunsE.refl w

/-! ## facts about the log and the validators -/

theorem getPP_congr {a b : Node} (hc : b.cfg = a.cfg) (hp : b.store.pps = a.store.pps) (v : Nat) :
    b.store.getPP b.cfg.height v = a.store.getPP a.cfg.height v := by
  rw [hc]; exact getPP_pps hp _ v

/-- the checks of `handleNewView` that look at the configuration only -/
theorem NVGuards.checked {n : Node} {nvm : NVMsg} (g : NVGuards n nvm) : NVChecked n.cfg nvm :=
  ⟨(validateVotes_cfg (a := { cfg := n.cfg }) (b := n) rfl _ _ _).trans g.votes, g.ppView, g.ppHeight, g.ppInst,
   (lockOk_cfg (a := { cfg := n.cfg }) (b := n) rfl nvm).trans g.lock⟩

/-! ## steps that make no statement -/

theorem RegOnly.quiet {a b : Node} (h : RegOnly a b) : Quiet a b := Quiet.of_eqs h.cfg h.store h.view h.prepared h.latestNV

theorem Calls.runs {w w' : W} (h : Calls w w') : RunsE e spi0 w w' :=
  RunsE.quiet h.n.quiet h.n.store (h.appends NS_benign)

theorem enterView_runs (w : W) (v : Nat) (h : w.n.view ≤ v) : RunsE e spi0 w (w.enterView v) :=
  RunsE.blk (l := [_]) rfl (.quiet ⟨rfl, h, Nat.le_refl _, rfl, rfl, List.prefix_refl _⟩ rfl
    (fun _ ho => by cases List.mem_singleton.mp ho; rfl))

theorem nvEnter_quiet (w : W) (v : Nat) (hl : w.n.latestNV ≤ v) : Quiet w.n (nvEnter w v).1.n :=
  have i := nvEnter_spec w v
  ⟨i.cfg, nvEnter_view_le w v, by rw [i.latestNV]; exact hl, i.prepared, by rw [i.store], by rw [i.store]; exact List.prefix_refl _⟩

theorem nvEnter_runs (w : W) (v : Nat) (hl : w.n.latestNV ≤ v) : RunsE e spi0 w (nvEnter w v).1 :=
  RunsE.quiet (nvEnter_quiet w v hl) (nvEnter_spec w v).store (nvEnter_appends NS_benign w v)

theorem RunsE.log (w : W) (op : StoreOp) (he : evOp e = some op) : RunsE e spi0 w (w.log op) :=
  RunsE.blk (l := []) (List.append_nil _).symm (.log op he)

/-! ## the handler pass: the commit and prepare paths -/

theorem commitW_runs (w : W) (h v hash : Nat) (b : Block)
    (hq : isQuorum w.n.cfg ((w.n.store.getCommits h v hash).map (·.sender.id)) = true)
    (hpp : ∃ ppm, w.n.store.getPP h v = some ppm ∧ ppm.block = some b ∧ ppm.c.header.hash = hash) :
    RunsE e spi0 w (commitW w h v hash b) := by
  have hdec : ∀ w1 : W, w1.n = w.n →
      RunsE e spi0 w1 (({ w1 with n := { w1.n with committed := some b } } : W).emit (.commit b (w.n.store.getCommits h v hash))) :=
    fun w1 hn => RunsE.blk (l := [_]) rfl (.decide b _ h v hash (Quiet.of_eqs rfl rfl rfl rfl rfl) rfl (by rw [hn])
      (by rw [hn]; exact hq) (by rw [hn]; exact hpp))
  unfold commitW
  dsimp only
  split
  · exact hdec _ rfl
  · exact (RunsE.blk (w' := w.emit _) (l := [_]) rfl (.late h v hash _ hq)).trans (hdec _ rfl)

theorem checkCommitted_runs (w : W) (h v hash : Nat) : RunsE e spi0 w (checkCommitted w h v hash) := by
  have h0 : RunsE e spi0 w (ctxFor w h maxView).1 := (ctxFor_calls w h maxView).runs
  rcases checkCommitted_cases w h v hash with ⟨_, e1⟩ | ⟨b, ⟨_, hq, hpp⟩, ⟨_, e1⟩ | ⟨_, e1⟩⟩ <;> rw [e1]
  · exact RunsE.refl _
  · exact h0
  · exact h0.trans (commitW_runs _ h v hash b hq hpp)

theorem checkPreparedLocally_runs (w : W) (h v hash : Nat) (hh : h = w.n.cfg.height) (hv : w.n.view ≤ v)
    (hvo : ViewsOK w.n) (hne : w.n.store.getPrepares h v hash ≠ []) :
    RunsE e spi0 w (checkPreparedLocally w h v hash) := by
  rcases checkPreparedLocally_cases w h v hash with ⟨_, e1⟩ | ⟨⟨hnot, hpre, ppm, hg, hq⟩, e1⟩ <;> rw [e1]
  · exact RunsE.refl _
  · subst hh
    obtain ⟨ppm', hg', hblk, hhash⟩ := (isPreprepared_iff _ _ _ _).mp hpre
    obtain rfl : ppm = ppm' := Option.some.inj (hg.symm.trans hg')
    subst hhash
    obtain ⟨hm, _, hvv⟩ := getPP_spec hg
    have hle : v ≤ w.n.view := hvv ▸ hvo.pp ppm hm
    rw [onPreparedLocally_eq]
    exact RunsE.trans (RunsE.blk (w' := preparedW w w.n.cfg.height v ppm.c.header.hash) (l := [_]) rfl (.prepared v _ (others w.n.cfg) (Nat.le_antisymm hle hv) hnot
      ⟨ppm, hg, rfl, hblk⟩ (extractProof_isSome w.n v ppm hg hq hne))) (checkCommitted_runs _ _ _ _)

theorem handlePrepare_runs (w : W) (pm : PMsg) (hh : pm.header.height = w.n.cfg.height) (hvo : ViewsOK w.n) :
    RunsE (.deliver (.prepare pm)) spi0 w (handlePrepare w pm) := by
  rcases handlePrepare_cases w pm with ⟨_, e1⟩ | ⟨ha, e1⟩ <;> rw [e1]
  · exact RunsE.refl _
  · exact (RunsE.log w (.prepare pm) rfl).trans (checkPreparedLocally_runs _ _ _ _ hh (Nat.le_of_not_gt ha.2.2.2.1)
      (hvo.of_same (storePrepare_pps _ _) rfl (Nat.le_refl _)) (getPrepares_storePrepare_ne _ _))

theorem handleCommit_runs (w : W) (cm : CMsg) : RunsE (.deliver (.commit cm)) spi0 w (handleCommit w cm) := by
  rcases handleCommit_cases w cm with ⟨_, e1⟩ | ⟨_, e1⟩ <;> rw [e1]
  · exact RunsE.refl _
  · exact (RunsE.log w (.commit cm) rfl).trans (checkCommitted_runs _ _ _ _)

/-! ## the handler pass: proposals -/

/-- the adoption after steps that made no statement since the node was `n0`: what the handler checked of `n0` is
what the `accept` block records of the node it runs on -/
theorem adopt_runs (w : W) {n0 : Node} (ppm : PPMsg) (f : Bool) (hq : Quiet n0 w.n) (hv : w.n.view = ppm.c.header.view)
    (hh : ppm.c.header.height = n0.cfg.height)
    (hnone : n0.store.getPP ppm.c.header.height ppm.c.header.view = none)
    (hnl : isLeader n0.cfg n0.cfg.me ppm.c.header.view = false)
    (hlock : f = true ∨ lockConflict n0 ppm = false)
    (hsrc : PPSrc e n0.cfg ppm f)
    (hval : (f = false ∨ ∃ nvm : NVMsg, e = .deliver (.newView nvm) ∧ latestVote nvm.header.votes = none) →
        ∃ cd rest, spi0 = Spi.verdict true cd :: rest)
    (hvo : ViewsOK n0) :
    RunsE e spi0 w (checkPreparedLocally (adoptState w ppm) ppm.c.header.height ppm.c.header.view ppm.c.header.hash) := by
  rw [← hq.cfg] at hh hnl hsrc
  rw [← hv] at hnl
  rw [← lockConflict_congr hq.prepared hq.pps] at hlock
  refine RunsE.trans (b := adoptState w ppm)
    (RunsE.blk (l := [_]) rfl (.accept ppm f (others w.n.cfg) hh hv.symm ?_ hnl (Or.inr hlock) hsrc hval))
    (checkPreparedLocally_runs _ _ _ _ hh (Nat.le_of_eq hv)
      ((hvo.of_same hq.pps hq.prepared hq.view).accept _ _ hv.symm)
      (getPrepares_storePrepare_ne (w.n.store.storePP ppm) _))
  rw [hv, ← hh, getPP_pps hq.pps]
  exact hnone

theorem handlePrePrepare_runs (w : W) (ppm : PPMsg) (hh : ppm.c.header.height = w.n.cfg.height)
    (hs : ppm.c.sender.id ≠ w.n.cfg.me) (hvo : ViewsOK w.n) (hspi : w.spi = spi0) :
    RunsE (.deliver (.preprepare ppm)) spi0 w (handlePrePrepare w ppm) := by
  have c := askValidate_calls w ppm.c.header.height ppm.c.header.view ppm.block ppm.c.header.hash
  rcases handlePrePrepare_accept_cases w ppm with ⟨_, h⟩ | ⟨⟨ha, hl, hv, hok⟩, e1⟩
  · exact h.runs
  · rw [e1]
    exact c.runs.trans (adopt_runs _ ppm false c.n.quiet (c.n.view.trans hv) hh ha.free
      (AccSrc.notLeader (e := .deliver (.preprepare ppm)) hs (Or.inl ⟨rfl, hl⟩) ha) (Or.inr hl) (Or.inl ⟨rfl, rfl⟩)
      (fun _ => hspi ▸ askValidate_ok_spi _ _ _ _ _ hok) hvo)

theorem handleNewView_runs (w : W) (nvm : NVMsg) (hh : nvm.header.height = w.n.cfg.height)
    (hs : nvm.sender.id ≠ w.n.cfg.me) (hlv : w.n.latestNV ≤ w.n.view)
    (hvo : ViewsOK w.n) (hspi : w.spi = spi0) : RunsE (.deliver (.newView nvm)) spi0 w (handleNewView w nvm) := by
  have a := nvAsk_calls w nvm
  rcases handleNewView_accept_cases w nvm with ⟨_, h⟩ | ⟨⟨g, hauth, hok⟩, hv, e1⟩
  · exact h.runs
  have hle : (nvAsk w nvm).1.n.latestNV ≤ nvm.header.view := by rw [a.n.latestNV]; exact Nat.le_trans hlv g.view
  rw [e1]
  refine (a.runs.trans (nvEnter_runs _ _ hle)).trans (adopt_runs _ ⟨nvm.pp, nvm.block⟩ true (a.n.quiet.trans (nvEnter_quiet _ _ hle))
    (hv.trans g.ppView.symm) (g.ppHeight.trans hh) hauth.free
    (AccSrc.notLeader (e := .deliver (.newView nvm)) hs (Or.inr ⟨nvm, rfl, rfl, g⟩) hauth) (Or.inl rfl)
    (Or.inr ⟨nvm, rfl, rfl, rfl, g.checked⟩) ?_ hvo)
  rintro (hf | ⟨nvm', he, hnone⟩)
  · cases hf
  · cases he
    -- no vote carries a proof, so `nvAsk` was the consumer's validation
    unfold nvAsk at hok
    rw [hnone] at hok
    exact hspi ▸ askValidate_ok_spi _ _ _ _ _ hok

/-! ## the handler pass: elections -/

/-- proposals this node would lead are covered by the leader bookkeeping: a stored proposal of a view
this node leads is for a view ≤ `latestNV` (so a newly elected leader has not proposed yet) -/
def LeaderPPs (n : Node) : Prop :=
  ∀ v ppm, n.store.getPP n.cfg.height v = some ppm → isLeader n.cfg n.cfg.me v = true → v ≤ n.latestNV

theorem LeaderPPs.of_same {a b : Node} (h : LeaderPPs a) (hc : b.cfg = a.cfg) (hp : b.store.pps = a.store.pps)
    (hl : a.latestNV ≤ b.latestNV) : LeaderPPs b := by
  intro v ppm hg hlead
  rw [getPP_congr hc hp] at hg
  exact Nat.le_trans (h v ppm hg (by rw [← hc]; exact hlead)) hl

/-- `n0` is the node when it was elected: configuration and log are still its, the view and the bookkeeping value
have moved to `view` -/
theorem sendNewView_runs (w : W) {n0 : Node} (h view h' : Nat) (b : Block) (hash : Nat)
    (hc : w.n.cfg = n0.cfg) (hs : w.n.store = n0.store) (hh : h = n0.cfg.height)
    (hview : w.n.view = view) (hlnv : w.n.latestNV = view)
    (hlead : isLeader n0.cfg n0.cfg.me view = true)
    (hnone : n0.store.getPP n0.cfg.height view = none)
    (hq : isQuorum n0.cfg ((n0.store.getVCs h' view).map (·.c.sender.id)) = true)
    (hsel : latestBlockFromVCs (n0.store.getVCs h' view) = some (b, hash) ∨
      (latestBlockFromVCs (n0.store.getVCs h' view) = none ∧ ∃ cd rest, spi0 = Spi.proposal b cd :: rest ∧ hash = b.hash)) :
    RunsE e spi0 w (sendNewView w h view (n0.store.getVCs h' view) b hash) := by
  rw [← hc] at hh hlead hnone hq
  rw [← hs] at hnone hq hsel ⊢
  subst hh hview
  refine RunsE.blk (l := [_]) rfl (.propose ⟨⟨mkRef w.n.cfg tPP w.n.view hash, mySig w.n.cfg⟩, some b⟩ true _ rfl rfl hnone
    (Nat.le_of_eq hlnv.symm) (Or.inr rfl) rfl ⟨rfl, rfl, rfl⟩ (fun _ => ⟨h', hq, ?_⟩) (fun h => by cases h) ⟨b, rfl, ?_⟩
    (Or.inr ⟨_, _, h', rfl, rfl, rfl, rfl, hlead, hq, ?_⟩))
  · exact hsel.imp (fun h => ⟨b, h⟩) (fun ⟨hn, cd, rest, h1, h2⟩ => ⟨hn, b, cd, rest, h1, h2⟩)
  · rcases hsel with h1 | ⟨_, _, _, _, h2⟩
    · exact Or.inr ⟨h', h1⟩
    · exact Or.inl h2.symm
  · rcases hsel with h1 | ⟨hn, _, _, _, h2⟩
    · rw [h1]; exact ⟨rfl, rfl⟩
    · rw [hn]; intro b0 hb0; cases hb0; exact h2

theorem onElectedByViewChange_runs (w : W) (view h' : Nat)
    (hlead : isLeader w.n.cfg w.n.cfg.me view = true) (hlt : w.n.latestNV < view) (hK : LeaderPPs w.n)
    (hqv : isQuorum w.n.cfg ((w.n.store.getVCs h' view).map (·.c.sender.id)) = true) (hspi : w.spi = spi0) :
    RunsE e spi0 w (onElectedByViewChange w view (w.n.store.getVCs h' view)) := by
  have i := nvEnter_spec w view
  -- a leader that has not yet processed a NEW_VIEW or an election for `view` has not proposed for it
  have hnone : w.n.store.getPP w.n.cfg.height view = none := by
    cases hg : w.n.store.getPP w.n.cfg.height view with
    | none => rfl
    | some ppm => exact absurd (hK view ppm hg hlead) (Nat.not_le.mpr hlt)
  obtain ⟨w1, c, e1 | ⟨hok, b, hash, hsel, e1⟩⟩ := onElectedByViewChange_sends w view (w.n.store.getVCs h' view) <;> rw [e1]
  · exact (nvEnter_runs w view (Nat.le_of_lt hlt)).trans c.runs
  · refine ((nvEnter_runs w view (Nat.le_of_lt hlt)).trans c.runs).trans (sendNewView_runs _ _ view h' b hash (c.n.cfg.trans i.cfg)
      (c.n.store.trans i.store) (by rw [i.cfg]) (c.n.view.trans (i.view hok)) (c.n.latestNV.trans i.latestNV) hlead hnone hqv
      (hsel.imp_right fun ⟨hn, hh, ha⟩ => ⟨hn, ?_⟩))
    obtain ⟨cd, rest, hsp⟩ := askProposal_some_spi _ _ _ b (congrArg Prod.snd ha)
    exact ⟨cd, rest, by rw [← hspi, ← i.spi]; exact hsp, hh⟩

theorem checkElected_runs (w : W) (h view : Nat) (hlead : isLeader w.n.cfg w.n.cfg.me view = true) (hK : LeaderPPs w.n)
    (hspi : w.spi = spi0) : RunsE e spi0 w (checkElected w h view) := by
  rcases checkElected_cases w h view with ⟨_, e1⟩ | ⟨hlt, hq, e1⟩ <;> rw [e1]
  · exact RunsE.refl _
  · exact onElectedByViewChange_runs w view h hlead hlt hK hq hspi

theorem handleViewChange_runs (w : W) (vcm : VCMsg) (hK : LeaderPPs w.n) (hspi : w.spi = spi0) :
    RunsE (.deliver (.viewChange vcm)) spi0 w (handleViewChange w vcm) := by
  rcases handleViewChange_cases w vcm with ⟨_, e1⟩ | ⟨hg, e1⟩ <;> rw [e1]
  · exact RunsE.refl _
  · exact (RunsE.log w (.vc vcm) rfl).trans
      (checkElected_runs _ _ _ hg.1 (hK.of_same rfl (storeVC_pps _ _) (Nat.le_refl _)) hspi)

theorem voteProof_eq (n : Node) :
    (match n.prepared with
      | some pv => extractProof n pv
      | none => none).map (fun (x : Proof × Option Block) => x.1) = voteProof n := by
  unfold voteProof
  cases n.prepared <;> rfl

theorem voteBlock_eq (n : Node) :
    (match n.prepared with
      | some pv => extractProof n pv
      | none => none).bind (fun (x : Proof × Option Block) => x.2) = voteBlock n := by
  unfold voteBlock
  cases n.prepared <;> rfl

theorem vote_of_prepared {a : Node} {pv : Nat} {p : Proof} {b : Option Block} (hp : a.prepared = some pv)
    (hx : extractProof a pv = some (p, b)) : voteProof a = some p ∧ voteBlock a = b := by
  simp [voteProof, voteBlock, hp, hx]

theorem vote_of_not_prepared {a : Node} (hp : a.prepared = none) : voteProof a = none ∧ voteBlock a = none := by
  simp [voteProof, voteBlock, hp]

theorem ownVote_eq_voteOnTimeout (n : Node) : ownVote n = C09.voteOnTimeout n := by
  unfold ownVote C09.voteOnTimeout
  rw [← voteProof_eq, ← voteBlock_eq]
  rfl

theorem election_runs (w : W) (h v : Nat) (hK : LeaderPPs w.n) (hvo : ViewsOK w.n) (hspi : w.spi = spi0) :
    RunsE e spi0 w (election w h v) := by
  rcases election_cases w h v with ⟨_, e1⟩ | ⟨rfl, rfl, hle, c⟩
  · exact RunsE.of_eq e1
  have h0 : RunsE e spi0 w _ := enterView_runs w _ hle
  have hpv : ∀ pv, w.n.prepared = some pv → pv < wrap64 (w.n.view + 1) := by
    intro pv hp
    have := hvo.prep pv hp
    unfold wrap64 U64 at hle ⊢
    omega
  rcases c with ⟨hl, e1⟩ | ⟨_, e1⟩ <;> rw [e1, ← ownVote_eq_voteOnTimeout]
  · exact (h0.trans (RunsE.blk (w' := W.log _ (.vc (ownVote _))) (l := []) (List.append_nil _).symm
      (.voteStore _ rfl rfl ⟨rfl, rfl, rfl, rfl⟩ hpv rfl rfl))).trans
      (checkElected_runs _ _ _ hl (hK.of_same rfl (storeVC_pps _ _) (Nat.le_refl _)) hspi)
  · exact h0.trans (RunsE.blk (l := [_]) rfl (.voteSend (ownVote _) _ rfl rfl hpv ⟨rfl, rfl, rfl, rfl⟩ rfl))

theorem sendPreprepare_runs (w : W) (b : Block) (hv : w.n.view = 0) (hnone : w.n.store.getPP w.n.cfg.height w.n.view = none)
    (hreq : ∃ cd rest, spi0 = Spi.proposal b cd :: rest) : RunsE e spi0 w (sendPreprepare w b) := by
  obtain ⟨cd, rest, hreq⟩ := hreq
  exact RunsE.blk (l := [_]) rfl (.propose (ownPP w.n.cfg 0 b b.hash) false _ rfl hv.symm hnone (by rw [hv]; exact Nat.zero_le _)
    (Or.inl hv) rfl ⟨rfl, rfl, rfl⟩ (fun h => by cases h) (fun _ => ⟨b, cd, rest, hreq, rfl⟩) ⟨b, rfl, Or.inl rfl⟩ (Or.inl ⟨_, rfl⟩))

theorem startTerm_runs (w : W) (c : Bool) (hpps : w.n.store.pps = []) (hprep : w.n.prepared = none) (hspi : w.spi = spi0) :
    RunsE e spi0 w (startTerm w c) := by
  have hq0 : RunsE e spi0 w ({ w with n := { w.n with prepared := none } } : W) :=
    RunsE.quiet ⟨rfl, Nat.le_refl _, Nat.le_refl _, hprep.symm, rfl, List.prefix_refl _⟩ rfl (Appends.of_outs_eq rfl)
  rcases startTerm_cases w c with ⟨_, e1⟩ | ⟨hv, c1⟩
  · rw [e1]; exact hq0
  have h0 : RunsE e spi0 w _ := hq0.trans (enterView_runs _ 0 (Nat.le_of_eq hv))
  have p := askProposal_calls (({ w with n := { w.n with prepared := none } } : W).enterView 0) w.n.cfg.height 0
  rcases c1 with ⟨_, e1⟩ | ⟨_, _, ⟨_, e1⟩ | ⟨b, hb, e1⟩⟩ <;> rw [e1]
  · exact h0
  · exact h0.trans p.runs
  · obtain ⟨cd, rest, hsp⟩ := askProposal_some_spi _ _ _ b hb
    refine (h0.trans p.runs).trans (sendPreprepare_runs _ b p.n.view ?_ ⟨cd, rest, hspi ▸ hsp⟩)
    rw [getPP_eq_none, p.n.store]
    intro q hq
    have : q ∈ w.n.store.pps := hq
    rw [hpps] at this
    cases this

/-- the events the worker lets through, as far as the atomic blocks need it: proposals, PREPAREs and NEW_VIEWs are of
this height, proposals and NEW_VIEWs signed by another member (COMMITs and VIEW_CHANGEs are unconstrained); a term
starts with no proposal stored and not prepared -/
def EventLocal (n : Node) : Event → Prop
  | .start _ => n.store.pps = [] ∧ n.prepared = none
  | .deliver (.preprepare m) => m.c.header.height = n.cfg.height ∧ m.c.sender.id ≠ n.cfg.me
  | .deliver (.prepare m) => m.header.height = n.cfg.height
  | .deliver (.newView m) => m.header.height = n.cfg.height ∧ m.sender.id ≠ n.cfg.me
  | _ => True

/-- **every event the worker lets through is a sequence of atomic blocks**, from a node that satisfies `ViewsOK`,
`LeaderPPs` and `latestNV ≤ view` -/
theorem step_runs (n : Node) (e : Event) (spi : List Spi) (he : EventLocal n e)
    (hvo : ViewsOK n) (hlv : n.latestNV ≤ n.view) (hK : LeaderPPs n) :
    ∃ w' g, Runs e spi { n := n, spi := spi } w' g ∧ step n e spi = (w'.n, w'.outs) := by
  have h : RunsE e spi { n := n, spi := spi } (stepW { n := n, spi := spi } e) := by
    cases e with
    | start c => exact startTerm_runs _ c he.1 he.2 rfl
    | election h v => exact election_runs _ h v hK hvo rfl
    | cancelOlder h v => exact (Calls.reg _ (.refl _)).runs
    | deliver m =>
      cases m with
      | preprepare x => exact handlePrePrepare_runs _ x he.1 he.2 hvo rfl
      | prepare x => exact handlePrepare_runs _ x he hvo
      | commit x => exact handleCommit_runs _ x
      | viewChange x => exact handleViewChange_runs _ x hK rfl
      | newView x => exact handleNewView_runs _ x he.1 he.2 hlv hvo rfl
  obtain ⟨g, r⟩ := h
  exact ⟨_, g, r, step_eq n e spi⟩

/-! ## what a block does

Frames and inversions of the atomic blocks, for whoever proves an invariant block by block. -/

theorem Blk.erase {a b : Node} {l : List Out} {g : List LEv} (h : Blk e spi0 a b l g) :
    l.filterMap stmtOf = g.filterMap erase := by
  cases h with
  | quiet hq hs hl => exact List.filterMap_eq_nil_iff.mpr hl
  | log op he => rfl
  | accept ppm f rcpt => rfl
  | prepared v hash rcpt => rfl
  | late h v hash rcpt => rfl
  | decide blk cs => rfl
  | propose ppm f o hh hv hnone hlnv hf ho => rw [List.filterMap_cons, ho]; rfl
  | voteSend vc rcpt hv hp _ _ _ => rw [← hv]; rfl
  | voteStore vc => rfl

theorem Runs.erase {w w' : W} {g : List LEv} (h : Runs e spi0 w w' g) :
    ∃ l, w'.outs = w.outs ++ l ∧ l.filterMap stmtOf = g.filterMap erase := by
  induction h with
  | refl w => exact ⟨[], by simp, rfl⟩
  | blk ho hb => exact ⟨_, ho, hb.erase⟩
  | trans _ _ ih1 ih2 =>
    obtain ⟨l1, e1, f1⟩ := ih1
    obtain ⟨l2, e2, f2⟩ := ih2
    exact ⟨l1 ++ l2, by rw [e2, e1, List.append_assoc], by rw [List.filterMap_append, List.filterMap_append, f1, f2]⟩

/-- for a handler started with no effects: statements `T` (newest first) that erase to the effects so far keep doing so -/
theorem Runs.erase_outs {n : Node} {spi : List Spi} {w' : W} {g : List LEv} (h : Runs e spi0 { n := n, spi := spi } w' g)
    {outs : List Out} {T : List LEv} (hT : outs.filterMap stmtOf = T.reverse.filterMap Term.erase) :
    (outs ++ w'.outs).filterMap stmtOf = (g.reverse ++ T).reverse.filterMap Term.erase := by
  obtain ⟨l, hl, hle⟩ := h.erase
  rw [show w'.outs = l by simpa using hl, List.filterMap_append, hT, hle, List.reverse_append, List.reverse_reverse,
    List.filterMap_append]

end LeanHelix.Term

namespace LeanHelix.C01Local
open LeanHelix LeanHelix.Msg LeanHelix.Term

theorem blk_cfg {e : Event} {spi0 : List Spi} {a b : Node} {l : List Out} {g : List LEv} (h : Blk e spi0 a b l g) : b.cfg = a.cfg := by
  cases h with
  | quiet hq _ _ => exact hq.cfg
  | decide _ _ _ _ _ hq => exact hq.cfg
  | _ => rfl

theorem runs_cfg {e : Event} {spi0 : List Spi} {w w' : Term.W} {g : List LEv} (h : Runs e spi0 w w' g) : w'.n.cfg = w.n.cfg := by
  induction h with
  | refl => rfl
  | blk _ hb => exact blk_cfg hb
  | trans _ _ ih1 ih2 => rw [ih2, ih1]

end LeanHelix.C01Local

namespace LeanHelix.Net
open LeanHelix LeanHelix.Msg LeanHelix.Term

theorem blk_storeLe {e : Event} {spi0 : List Spi} {a b : Node} {l : List Out} {g : List LEv} (h : Blk e spi0 a b l g) : StoreLe a.store b.store := by
  cases h with
  | quiet _ hs _ => exact StoreLe.of_eq hs
  | log op _ => exact storeLe_apply _ op
  | accept ppm f rcpt => exact (storeLe_apply a.store (.pp ppm)).trans (storeLe_apply _ (.prepare _))
  | prepared v hash rcpt => exact storeLe_apply a.store (.commit _)
  | late => exact StoreLe.refl _
  | decide _ _ _ _ _ _ hs => exact StoreLe.of_eq hs
  | propose ppm => exact storeLe_apply a.store (.pp ppm)
  | voteSend => exact StoreLe.refl _
  | voteStore vc => exact storeLe_apply a.store (.vc vc)

theorem runs_storeLe {e : Event} {spi0 : List Spi} {w w' : Term.W} {g : List LEv} (h : Runs e spi0 w w' g) : StoreLe w.n.store w'.n.store := by
  induction h with
  | refl => exact StoreLe.refl _
  | blk _ hb => exact blk_storeLe hb
  | trans _ _ ih1 ih2 => exact ih1.trans ih2

theorem blk_vcs {e : Event} {spi0 : List Spi} {a b : Node} {l : List Out} {g : List LEv} (hb : Blk e spi0 a b l g)
    {x : VCMsg} (hx : x ∈ b.store.vcs) :
    x ∈ a.store.vcs ∨ (evOp e = some (.vc x) ∧ b = { a with store := a.store.apply (.vc x) })
      ∨ (x = ownVote a ∧ ∀ pv, a.prepared = some pv → pv < a.view) := by
  cases hb with
  | quiet _ hs => exact .inl (hs ▸ hx)
  | decide _ _ _ _ _ _ hs => exact .inl (hs ▸ hx)
  | log op he =>
    rcases mem_apply_vcs hx with hx | rfl
    · exact .inl hx
    · exact .inr (.inl ⟨he, rfl⟩)
  | accept ppm => exact .inl (by simpa [acceptNode] using hx)
  | prepared => exact .inl (storeCommit_vcs _ _ ▸ hx)
  | propose ppm => exact .inl (storePP_vcs _ ppm ▸ hx)
  | late => exact .inl hx
  | voteSend => exact .inl hx
  | voteStore vc _ _ _ hpv _ hvc =>
    rcases mem_storeVC hx with hx | rfl
    · exact .inl hx
    · exact .inr (.inr ⟨hvc, hpv⟩)

theorem prepBlock_le {a b : Node} (hcfg : b.cfg = a.cfg) (hp : b.prepared = a.prepared) (hle : a.store.pps <+: b.store.pps)
    (h : ∀ pv, a.prepared = some pv → ∃ ppm, a.store.getPP a.cfg.height pv = some ppm ∧ ppm.block.isSome = true) :
    ∀ pv, b.prepared = some pv → ∃ ppm, b.store.getPP b.cfg.height pv = some ppm ∧ ppm.block.isSome = true := by
  intro pv hpv
  obtain ⟨ppm, hg, hb⟩ := h pv (hp ▸ hpv)
  exact ⟨ppm, hcfg ▸ getPP_of_prefix hle hg, hb⟩

/-- the prepared proposal keeps its block: only `Blk.prepared` changes the prepared view, to one whose proposal has its block -/
theorem blk_prepBlock {e : Event} {spi0 : List Spi} {a b : Node} {l : List Out} {g : List LEv} (hb : Blk e spi0 a b l g)
    (h : ∀ pv, a.prepared = some pv → ∃ ppm, a.store.getPP a.cfg.height pv = some ppm ∧ ppm.block.isSome = true) :
    ∀ pv, b.prepared = some pv → ∃ ppm, b.store.getPP b.cfg.height pv = some ppm ∧ ppm.block.isSome = true := by
  have hpps := (blk_storeLe hb).pps
  cases hb with
  | quiet hq => exact prepBlock_le hq.cfg hq.prepared hpps h
  | decide _ _ _ _ _ hq => exact prepBlock_le hq.cfg hq.prepared hpps h
  | prepared v hash rcpt hv' hnot hpp hproof =>
    obtain ⟨ppm, hg1, _, hb1⟩ := hpp
    intro pv hp
    obtain rfl : v = pv := Option.some.inj hp
    exact ⟨ppm, getPP_of_prefix hpps hg1, hb1⟩
  | _ => exact prepBlock_le (a := a) rfl rfl hpps h

theorem blk_commit_out {e : Event} {spi0 : List Spi} {a b : Node} {l : List Out} {g : List LEv} (hb : Blk e spi0 a b l g)
    {blk : Block} {cs : List CMsg} (hm : Out.commit blk cs ∈ l) :
    ∃ h v hash ppm, cs = a.store.getCommits h v hash ∧ isQuorum a.cfg (cs.map (·.sender.id)) = true
      ∧ a.store.getPP h v = some ppm ∧ ppm.block = some blk ∧ ppm.c.header.hash = hash := by
  cases hb with
  | quiet hq hs hl => have := hl _ hm; simp [stmtOf] at this
  | propose ppm f o hh hv' hnone hlnv hf ho => rw [List.mem_singleton] at hm; subst hm; simp [stmtOf] at ho
  | decide blk' cs' h v hash hq hs hcs hcq hpp =>
    obtain ⟨rfl, rfl⟩ : blk = blk' ∧ cs = cs' := by simpa using hm
    obtain ⟨ppm, hpp⟩ := hpp
    exact ⟨h, v, hash, ppm, hcs, hcq, hpp⟩
  | _ => simp at hm

/-- the shape of a NEW_VIEW built by the member with configuration `c` -/
def NVOwn (c : Cfg) (nv : NVMsg) : Prop :=
  nv.header.mtype = tNV ∧ nv.header.inst = c.inst ∧ nv.header.height = c.height ∧ nv.sender = mySig c
  ∧ nv.pp.sender = nv.sender ∧ nv.pp.header.mtype = tPP ∧ nv.pp.header.inst = c.inst
  ∧ nv.pp.header.height = c.height ∧ nv.pp.header.view = nv.header.view
  ∧ isLeader c c.me nv.header.view = true ∧ ∃ b, nv.block = some b

theorem blk_proposal_out {e : Event} {spi0 : List Spi} {a b : Node} {l : List Out} {g : List LEv} (hb : Blk e spi0 a b l g) :
    (∀ rs nv, Out.send rs (.newView nv) ∈ l →
        b.store.getPP b.cfg.height nv.header.view = some ⟨nv.pp, nv.block⟩ ∧ NVOwn b.cfg nv)
    ∧ ∀ rs ppm, Out.send rs (.preprepare ppm) ∈ l → b.store.getPP b.cfg.height ppm.c.header.view = some ppm := by
  cases hb with
  | quiet hq hs hl => constructor <;> (intro _ _ hm; have := hl _ hm; simp [stmtOf] at this)
  | propose ppm f o hh hv hnone hlnv hf ho hown hsrc hreq hblk hmsg =>
    have hnew : (a.store.storePP ppm).getPP a.cfg.height a.view = some ppm := by
      have := storePP_getPP_new a.store ppm (by rw [hh, hv]; exact hnone)
      rwa [hh, hv] at this
    obtain ⟨b0, hb0, _⟩ := hblk
    constructor <;> intro rs m hm <;> rw [List.mem_singleton] at hm <;>
      rcases hmsg with ⟨rcpt, rfl⟩ | ⟨rcpt, nvm, h', rfl, _, _, hexact, hlead, _⟩ <;> cases hm
    · rw [hexact]
      exact ⟨hnew, rfl, rfl, rfl, rfl, hown.1, hown.2.2, hown.2.1, hh, hv, hlead, b0, hb0⟩
    · rw [hv]; exact hnew
  | _ => constructor <;> (intro _ _ hm; simp at hm)

end LeanHelix.Net
