import LeanHelix.Model.Quorum
/-!
# Weighted-set lemmas

`wt ms p` is the mathematical weight of the committee members whose id satisfies `p`.
The Go functions are related to it under the no-overflow hypothesis the properties state
("the total weight fits in 64 bits").
-/
namespace LeanHelix
open Quorum

abbrev Pred := Nat → Bool

def wt (ms : List Member) (p : Pred) : Nat := ((ms.filter (fun m => p m.id)).map (·.weight)).sum

theorem wt_nil (p : Pred) : wt [] p = 0 := rfl

theorem wt_cons (m : Member) (ms : List Member) (p : Pred) :
    wt (m :: ms) p = (if p m.id then m.weight else 0) + wt ms p := by
  unfold wt; by_cases h : p m.id <;> simp [h]

theorem ite_or_add_ite_and (a b : Bool) (w : Nat) :
    (if (a || b) = true then w else 0) + (if (a && b) = true then w else 0) =
      (if a = true then w else 0) + (if b = true then w else 0) := by
  cases a <;> cases b <;> simp

theorem wt_incl_excl (ms : List Member) (p q : Pred) :
    wt ms p + wt ms q = wt ms (fun i => p i || q i) + wt ms (fun i => p i && q i) := by
  induction ms with
  | nil => simp [wt]
  | cons m ms ih =>
    simp only [wt_cons]
    have := ite_or_add_ite_and (p m.id) (q m.id) m.weight
    omega

theorem wt_mono (ms : List Member) (p q : Pred) (h : ∀ m ∈ ms, p m.id = true → q m.id = true) :
    wt ms p ≤ wt ms q := by
  induction ms with
  | nil => simp [wt]
  | cons m ms ih =>
    simp only [wt_cons]
    have ih' := ih (fun x hx => h x (List.mem_cons_of_mem _ hx))
    by_cases hp : p m.id
    · have hq := h m (List.mem_cons_self ..) hp
      simp [hp, hq]; omega
    · by_cases hq : q m.id <;> simp [hp, hq] <;> omega

theorem wt_congr (ms : List Member) (p q : Pred) (h : ∀ m ∈ ms, p m.id = q m.id) :
    wt ms p = wt ms q := by
  induction ms with
  | nil => rfl
  | cons m ms ih =>
    rw [wt_cons, wt_cons, ih (fun x hx => h x (List.mem_cons_of_mem _ hx)), h m (List.mem_cons_self ..)]

theorem wt_pos_exists (ms : List Member) (p : Pred) (h : 0 < wt ms p) : ∃ m ∈ ms, p m.id = true := by
  induction ms with
  | nil => simp [wt] at h
  | cons m ms ih =>
    simp only [wt_cons] at h
    by_cases hp : p m.id
    · exact ⟨m, List.mem_cons_self .., hp⟩
    · simp [hp] at h
      obtain ⟨x, hx, hpx⟩ := ih h
      exact ⟨x, List.mem_cons_of_mem _ hx, hpx⟩

def W (ms : List Member) : Nat := wt ms (fun _ => true)
/-- the Byzantine bound f; what `CalcByzMaxWeight` computes (`calcByzMaxWeight_eq`) -/
def F (ms : List Member) : Nat := (W ms - 1) / 3
/-- the quorum weight; what `CalcQuorumWeight` computes (`calcQuorumWeight_eq`) -/
def Q (ms : List Member) : Nat := W ms - F ms

theorem W_eq_sum (ms : List Member) : W ms = (getWeights ms).sum := by
  unfold W getWeights
  induction ms with
  | nil => rfl
  | cons m ms ih => rw [wt_cons]; simp [ih]

theorem wt_le_W (ms : List Member) (p : Pred) : wt ms p ≤ W ms := wt_mono ms p _ (fun _ _ _ => rfl)

theorem three_f_lt (ms : List Member) (hW : 1 ≤ W ms) : 3 * F ms + 1 ≤ W ms := by
  unfold F; omega

theorem wt_false (ms : List Member) : wt ms (fun _ => false) = 0 := by
  induction ms with
  | nil => rfl
  | cons m ms ih => rw [wt_cons]; simp [ih]

theorem wt_compl (ms : List Member) (p : Pred) : wt ms p + wt ms (fun i => !p i) = W ms := by
  have h := wt_incl_excl ms p (fun i => !p i)
  have h1 : wt ms (fun i => p i || !p i) = W ms := by
    apply wt_congr; intro m _; cases p m.id <;> rfl
  have h2 : wt ms (fun i => p i && !p i) = 0 := by
    have : wt ms (fun i => p i && !p i) = wt ms (fun _ => false) := by
      apply wt_congr; intro m _; cases p m.id <;> rfl
    rw [this, wt_false]
  omega

/-! ## quorums: `Q = W - f` with `3 f < W` -/

theorem Q_add_F (ms : List Member) : Q ms + F ms = W ms :=
  Nat.sub_add_cancel (Nat.le_trans (Nat.div_le_self _ 3) (Nat.sub_le _ 1))

theorem F_lt_Q {ms : List Member} (hW : 1 ≤ W ms) : F ms < Q ms := by
  have := three_f_lt ms hW
  have := Q_add_F ms
  omega

theorem wt_inter_ge (ms : List Member) (p q : Pred) :
    wt ms p + wt ms q ≤ W ms + wt ms (fun i => p i && q i) := by
  have := wt_incl_excl ms p q
  have := wt_le_W ms (fun i => p i || q i)
  omega

theorem quorum_inter {ms : List Member} (hW : 1 ≤ W ms) {p q : Pred}
    (hp : Q ms ≤ wt ms p) (hq : Q ms ≤ wt ms q) : F ms < wt ms (fun i => p i && q i) := by
  have := wt_inter_ge ms p q
  have := three_f_lt ms hW
  have := Q_add_F ms
  omega

/-! ## the Go folds equal the mathematical sums when nothing overflows -/

theorem foldl_sum_noovf (ws : List Nat) (acc : Nat) (h : acc + ws.sum < U64) :
    ws.foldl (fun s w => wrap64 (s + w)) acc = acc + ws.sum := by
  induction ws generalizing acc with
  | nil => simp
  | cons w ws ih =>
    rw [List.sum_cons, ← Nat.add_assoc] at h
    rw [List.foldl_cons, wrap64_of_lt (Nat.lt_of_le_of_lt (Nat.le_add_right _ _) h), ih _ h, List.sum_cons,
      Nat.add_assoc]

theorem sumWeights_eq (ws : List Nat) (h : ws.sum < U64) : sumWeights ws = ws.sum := by
  unfold sumWeights; rw [foldl_sum_noovf ws 0 (by rw [Nat.zero_add]; exact h), Nat.zero_add]

theorem foldl_subset_noovf (ms : List Member) (p : Pred) (acc : Nat) (h : acc + wt ms p < U64) :
    ms.foldl (fun s m => if p m.id then wrap64 (s + m.weight) else s) acc = acc + wt ms p := by
  induction ms generalizing acc with
  | nil => simp [wt]
  | cons m ms ih =>
    rw [wt_cons] at h ⊢
    rw [List.foldl_cons]
    by_cases hp : p m.id = true
    · rw [if_pos hp, ← Nat.add_assoc] at h
      rw [if_pos hp, if_pos hp, wrap64_of_lt (Nat.lt_of_le_of_lt (Nat.le_add_right _ _) h), ih _ h, Nat.add_assoc]
    · rw [if_neg hp, Nat.zero_add] at h
      rw [if_neg hp, if_neg hp, ih _ h, Nat.zero_add]

theorem subsetWeight_eq (subset : List Nat) (ms : List Member) (h : W ms < U64) :
    subsetWeight subset ms = wt ms (fun i => subset.contains i) := by
  unfold subsetWeight
  have hle := wt_le_W ms (fun i => subset.contains i)
  rw [foldl_subset_noovf ms _ 0 (by rw [Nat.zero_add]; exact Nat.lt_of_le_of_lt hle h), Nat.zero_add]

theorem calcF_eq (total : Nat) (h1 : 1 ≤ total) (h2 : total < U64) : calcF total = (total - 1) / 3 := by
  unfold calcF wrap64
  rw [Nat.sub_add_comm h1, Nat.add_mod_right, Nat.mod_eq_of_lt (Nat.lt_of_le_of_lt (Nat.sub_le _ _) h2)]

theorem sumWeights_getWeights (ms : List Member) (h : W ms < U64) : sumWeights (getWeights ms) = W ms := by
  rw [sumWeights_eq _ (by rw [← W_eq_sum]; exact h), W_eq_sum]

theorem calcQuorumWeight_eq (ms : List Member) (h1 : 1 ≤ W ms) (h2 : W ms < U64) :
    calcQuorumWeight (getWeights ms) = Q ms := by
  unfold calcQuorumWeight
  simp only [sumWeights_getWeights ms h2]
  rw [if_neg (by omega), calcF_eq _ h1 h2]; rfl

theorem calcByzMaxWeight_eq (ms : List Member) (h1 : 1 ≤ W ms) (h2 : W ms < U64) :
    calcByzMaxWeight (getWeights ms) = F ms := by
  unfold calcByzMaxWeight
  simp only [sumWeights_getWeights ms h2]
  rw [if_neg (by omega), calcF_eq _ h1 h2]; rfl

/-! ## the two tests of the code, in weights -/

theorem isQuorum_iff {ms : List Member} (h1 : 1 ≤ W ms) (h2 : W ms < U64) (A : List Nat) :
    (isQuorum A ms).1 = true ↔ Q ms ≤ wt ms (fun i => A.contains i) := by
  simp only [isQuorum, decide_eq_true_eq, ge_iff_le, calcQuorumWeight_eq ms h1 h2, subsetWeight_eq A ms h2]

theorem hasHonest_iff {ms : List Member} (h1 : 1 ≤ W ms) (h2 : W ms < U64) (A : List Nat) :
    (hasHonest A ms).1 = true ↔ F ms < wt ms (fun i => A.contains i) := by
  simp only [hasHonest, decide_eq_true_eq, gt_iff_lt, calcByzMaxWeight_eq ms h1 h2, subsetWeight_eq A ms h2]

/-! ## what holds of the code whatever the weights (wrap-around included) -/

theorem sumWeights_lt (ws : List Nat) : sumWeights ws < U64 := by
  unfold sumWeights
  suffices ∀ s, s < U64 → ws.foldl (fun s w => wrap64 (s + w)) s < U64 from this 0 (by decide)
  induction ws with
  | nil => exact fun s hs => hs
  | cons w ws ih => exact fun s _ => ih _ (wrap64_lt _)

/-- `f < Q` in the code's own arithmetic: `f = (s - 1) / 3` of the (wrapped) total `s` -/
theorem calcByzMaxWeight_lt_calcQuorumWeight (ws : List Nat) : calcByzMaxWeight ws < calcQuorumWeight ws := by
  unfold calcByzMaxWeight calcQuorumWeight
  have hlt := sumWeights_lt ws
  generalize sumWeights ws = s at hlt
  by_cases hs : s = 0
  · rw [if_pos hs, if_pos hs, hs]; exact Nat.zero_lt_one
  · rw [if_neg hs, if_neg hs, calcF_eq s (Nat.pos_of_ne_zero hs) hlt]; omega

/-- only the members of positive weight matter: the sum so far is below 2^64, so adding 0 does not wrap -/
theorem subsetWeight_congr_pos {A B : List Nat} {ms : List Member}
    (h : ∀ m ∈ ms, m.weight ≠ 0 → A.contains m.id = B.contains m.id) : subsetWeight A ms = subsetWeight B ms := by
  unfold subsetWeight
  suffices ∀ acc, acc < U64 →
      ms.foldl (fun s m => if A.contains m.id then wrap64 (s + m.weight) else s) acc =
      ms.foldl (fun s m => if B.contains m.id then wrap64 (s + m.weight) else s) acc from this 0 (by decide)
  induction ms with
  | nil => exact fun _ _ => rfl
  | cons m ms ih =>
    intro acc hacc
    have ih := ih (fun x hx => h x (List.mem_cons_of_mem _ hx))
    simp only [List.foldl_cons]
    by_cases hw : m.weight = 0
    · simp only [hw, Nat.add_zero, wrap64_of_lt hacc, ite_self]; exact ih acc hacc
    · rw [h m (List.mem_cons_self ..) hw]
      exact ih _ (by split; exact wrap64_lt _; exact hacc)

theorem subsetWeight_congr {A B : List Nat} {ms : List Member}
    (h : ∀ m ∈ ms, A.contains m.id = B.contains m.id) : subsetWeight A ms = subsetWeight B ms :=
  subsetWeight_congr_pos fun m hm _ => h m hm

theorem subsetWeight_nil (ms : List Member) : subsetWeight [] ms = 0 := by
  unfold subsetWeight
  generalize 0 = acc
  induction ms generalizing acc with
  | nil => rfl
  | cons m ms ih => exact ih acc

theorem not_isQuorum_nil (ms : List Member) : (isQuorum [] ms).1 = false := by
  have := calcByzMaxWeight_lt_calcQuorumWeight (getWeights ms)
  simp only [isQuorum, subsetWeight_nil, ge_iff_le, decide_eq_false_iff_not]
  omega

end LeanHelix
