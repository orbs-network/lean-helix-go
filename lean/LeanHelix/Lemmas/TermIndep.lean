import LeanHelix.Lemmas.TermHandlers
/-!
# The node part of the PREPARE / COMMIT handlers does not depend on the effects emitted so far

`handlePrepare` and `handleCommit` read nothing but the node (`w.n`): neither the SPI answers nor the
effect list.  So a handler applied to an accumulated `W` (as in the fold-style theorems of C05) and
`Term.step` applied to the node alone (as in the network model) reach the same node state, and the
effects of the call are appended to those before it.  Each function is walked once (`_indep`); the node
and the effect list are read off.
-/
namespace LeanHelix.Term
open LeanHelix LeanHelix.Msg

def fresh (w : W) : W := { n := w.n, spi := [], outs := [] }

def W.after (w r : W) : W := { n := r.n, outs := w.outs ++ r.outs, spi := w.spi }

theorem W.after_fresh (w : W) : w.after (fresh w) = w := by simp [W.after, fresh]

theorem checkCommitted_indep (w : W) (h v hash : Nat) :
    checkCommitted w h v hash = w.after (checkCommitted (fresh w) h v hash) := by
  -- the conditions (`CommitCond`, the answer of `ctxFor`) are read off the node, which `fresh w` shares
  rcases checkCommitted_cases w h v hash with ⟨hno, e⟩ | ⟨b, hc, hctx⟩
  · rw [e, ((checkCommitted_cases (fresh w) h v hash).resolve_right (fun ⟨b', hc', _⟩ => hno b' hc')).2, W.after_fresh]
  · obtain ⟨b', hc', hctx'⟩ := (checkCommitted_cases (fresh w) h v hash).resolve_left (fun x => x.1 b hc)
    obtain rfl : b = b' := hc.block_eq hc'
    rcases hctx with ⟨hn, e⟩ | ⟨hs, e⟩
    · rw [e, (hctx'.resolve_right (fun x => by rw [show (ctxFor (fresh w) h maxView).2 = none from hn] at x; cases x.1)).2]
      simp [W.after, fresh, ctxFor]
    · rw [e, (hctx'.resolve_left (fun x => by rw [show (ctxFor w h maxView).2 = none from x.1] at hs; cases hs)).2]
      rw [show (ctxFor w h maxView).1 = w.after (ctxFor (fresh w) h maxView).1 by simp [W.after, fresh, ctxFor]]
      unfold commitW
      dsimp only [W.after]
      split <;> rename_i hx <;> simp [hx, W.emit]

theorem onPreparedLocally_indep (w : W) (h v hash : Nat) :
    onPreparedLocally w h v hash = w.after (onPreparedLocally (fresh w) h v hash) := by
  rw [onPreparedLocally_eq, onPreparedLocally_eq, checkCommitted_indep]
  conv => rhs; rw [checkCommitted_indep]
  simp [W.after, fresh, W.emit, preparedW]

theorem checkPreparedLocally_indep (w : W) (h v hash : Nat) :
    checkPreparedLocally w h v hash = w.after (checkPreparedLocally (fresh w) h v hash) := by
  rcases checkPreparedLocally_cases w h v hash with ⟨hn, e⟩ | ⟨hc, e⟩
  · rw [e, ((checkPreparedLocally_cases (fresh w) h v hash).resolve_right (fun x => hn x.1)).2, W.after_fresh]
  · rw [e, checkPreparedLocally_of_cond (w := fresh w) hc]
    exact onPreparedLocally_indep w h v hash

theorem handlePrepare_indep (w : W) (pm : PMsg) : handlePrepare w pm = w.after (handlePrepare (fresh w) pm) := by
  rcases handlePrepare_cases w pm with ⟨hn, e⟩ | ⟨ha, e⟩
  · rw [e, ((handlePrepare_cases (fresh w) pm).resolve_right (fun h => hn h.1)).2, W.after_fresh]
  · rw [e, ((handlePrepare_cases (fresh w) pm).resolve_left (fun h => h.1 ha)).2, checkPreparedLocally_indep]
    conv => rhs; rw [checkPreparedLocally_indep]
    simp [W.after, fresh]

theorem handleCommit_indep (w : W) (cm : CMsg) : handleCommit w cm = w.after (handleCommit (fresh w) cm) := by
  rcases handleCommit_cases w cm with ⟨hn, e⟩ | ⟨ha, e⟩
  · rw [e, ((handleCommit_cases (fresh w) cm).resolve_right (fun h => hn h.1)).2, W.after_fresh]
  · rw [e, ((handleCommit_cases (fresh w) cm).resolve_left (fun h => h.1 ha)).2, checkCommitted_indep]
    conv => rhs; rw [checkCommitted_indep]
    simp [W.after, fresh]

theorem handlePrepare_fresh (w : W) (pm : PMsg) : (handlePrepare w pm).n = (handlePrepare (fresh w) pm).n := by
  rw [handlePrepare_indep]; rfl

theorem handleCommit_fresh (w : W) (cm : CMsg) : (handleCommit w cm).n = (handleCommit (fresh w) cm).n := by
  rw [handleCommit_indep]; rfl

theorem foldl_handlePrepare_fresh (pms : List PMsg) : ∀ (w : W),
    (pms.foldl handlePrepare w).n = pms.foldl (fun n pm => (handlePrepare { n := n, spi := [] } pm).n) w.n := by
  induction pms with
  | nil => intro w; rfl
  | cons pm rest ih =>
    intro w
    simp only [List.foldl_cons]
    rw [ih (handlePrepare w pm), handlePrepare_fresh]
    rfl

theorem foldl_handleCommit_fresh (cms : List CMsg) : ∀ (w : W),
    (cms.foldl handleCommit w).n = cms.foldl (fun n cm => (handleCommit { n := n, spi := [] } cm).n) w.n := by
  induction cms with
  | nil => intro w; rfl
  | cons cm rest ih =>
    intro w
    simp only [List.foldl_cons]
    rw [ih (handleCommit w cm), handleCommit_fresh]
    rfl

theorem handlePrepare_spi (n : Node) (spi : List Spi) (pm : PMsg) :
    (handlePrepare { n := n, spi := spi } pm).n = (handlePrepare { n := n, spi := [] } pm).n := by
  rw [handlePrepare_fresh]; rfl

theorem handleCommit_spi (n : Node) (spi : List Spi) (cm : CMsg) :
    (handleCommit { n := n, spi := spi } cm).n = (handleCommit { n := n, spi := [] } cm).n := by
  rw [handleCommit_fresh]; rfl

theorem handlePrepare_outs (w : W) (pm : PMsg) :
    (handlePrepare w pm).outs = w.outs ++ (handlePrepare (fresh w) pm).outs := by
  rw [handlePrepare_indep]; rfl

theorem handleCommit_outs (w : W) (cm : CMsg) :
    (handleCommit w cm).outs = w.outs ++ (handleCommit (fresh w) cm).outs := by
  rw [handleCommit_indep]; rfl

end LeanHelix.Term
