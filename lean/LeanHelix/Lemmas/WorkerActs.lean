import LeanHelix.Model.Worker
import LeanHelix.Lemmas.TermActs
import LeanHelix.Lemmas.Cache
/-!
# The worker as a sequence of primitive actions

`Worker.newRound` and `Worker.drain` call each other (a delivery may commit, the commit starts the next
round, the round drains its cache), so a statement about the worker proved on the code itself takes a
fuel-indexed mutual induction.  That induction is done once, here (`newRound_acts` / `drain_acts`, and
`step_acts` for a whole event): whatever the worker does to its state between two points of `step` is a
sequence (`Acts`) of seven primitive actions (`Act`), each with the facts the code has checked when it
takes it.  An invariant of the worker, or a relation between its state before and after, is then proved by
looking at the seven kinds of action (`Acts.inv`, `Acts.rel`): no fuel, no cache drain, no nesting.
-/
namespace LeanHelix.C08
open LeanHelix LeanHelix.Msg LeanHelix.Worker

def MsgOK (me inst h : Nat) (m : Message) : Prop := msgInst m = inst ∧ msgHeight m = h ∧ msgSender m ≠ me

end LeanHelix.C08

namespace LeanHelix.Worker
open LeanHelix LeanHelix.Msg LeanHelix.Contexts LeanHelix.C08

/-! ### the future cache -/

/-- every cached message is of this instance, of the height it is cached under, and not this node's own
(`Lemmas/Cache.lean`: kept by `clearEarlier` / `cacheErase`, which filter, and by `cacheAppend`) -/
abbrev CacheOK (me inst : Nat) (c : List (Nat × List Message)) : Prop := Cache.All (MsgOK me inst) c

theorem CacheOK.get {me inst : Nat} {c : List (Nat × List Message)} (h : CacheOK me inst c) (k : Nat) :
    ∀ m ∈ cacheGet c k, MsgOK me inst k m := by
  intro m hm
  unfold cacheGet at hm
  split at hm
  · exact h.find ‹_› m hm
  · cases hm

theorem pushToCache_spec (n : WNode) (m : Message) :
    pushToCache n m = { n with cache := (pushToCache n m).cache, latest := (pushToCache n m).latest }
    ∧ (CacheOK n.me n.inst n.cache → MsgOK n.me n.inst (msgHeight m) m → CacheOK n.me n.inst (pushToCache n m).cache) := by
  unfold pushToCache
  dsimp only
  split
  · exact ⟨rfl, fun h _ => h⟩
  · split
    · exact ⟨rfl, fun h hm => (h.filter _).append hm⟩
    · exact ⟨rfl, fun h hm => h.append hm⟩

/-! ### what the pieces of a round start and of a delivery do -/

/-- `handInTerm` looks for the commit among the effects it reads back from the end of `w.outs`; those are
the term's own, which gives this closed form -/
theorem handInTerm_eq (w : WW) (t : Term.Node) (m : Message) :
    handInTerm w t m =
      (let tw := handle { n := { t with reg := w.n.reg }, spi := (termSpis w.spi).1 } m
       ({ n := { w.n with reg := tw.n.reg, term := some tw.n }, outs := w.outs ++ tw.outs.map WOut.term,
          spi := tw.spi.map WSpi.term ++ (termSpis w.spi).2 }, findCommit tw.outs)) := by
  have key : ∀ (l : List Term.Out), ((w.outs ++ l.map WOut.term).drop w.outs.length).filterMap
      (fun o => match o with | .term x => some x | _ => none) = l := by
    intro l
    rw [List.drop_left]
    induction l with
    | nil => rfl
    | cons x xs ih => simp only [List.map_cons, List.filterMap_cons]; rw [ih]
  unfold handInTerm
  dsimp only
  cases m <;> exact Prod.ext rfl (congrArg findCommit (key _))

theorem disposeTerm_spec (w : WW) :
    ∃ l, disposeTerm w = { w with n := { w.n with term := none }, outs := w.outs ++ l } ∧ ∀ o ∈ l, o = .stopTimer := by
  unfold disposeTerm
  dsimp only
  split
  · exact ⟨[.stopTimer], rfl, fun o ho => List.mem_singleton.mp ho⟩
  · exact ⟨[], by rw [List.append_nil], fun o ho => nomatch ho⟩

theorem askCommittee_spec (w : WW) (h : Nat) :
    ∃ sp, (askCommittee w h).1 = { w with n := { w.n with reg := (Contexts.step w.n.reg (.for_ ⟨h, Term.maxView⟩)).1 }, spi := sp } := by
  unfold askCommittee
  dsimp only
  split
  · split
    · exact ⟨_, rfl⟩
    · exact ⟨_, rfl⟩
  · exact ⟨_, rfl⟩

theorem createTerm_spec (w : WW) (h : Nat) (ms : List Member) (c : Bool) :
    createTerm w h ms c = w ∨ (∃ s, createTerm w h ms c = w.emit (.term (.goPanic s)))
    ∨ (ms.any (fun m => m.id == w.n.me) = true ∧ ¬ ms.length < 4
        ∧ createTerm w h ms c =
          { (withTerm w { cfg := ⟨w.n.me, w.n.inst, h, ms⟩ } (fun tw => Term.startTerm tw c)).1 with
            n := { (withTerm w { cfg := ⟨w.n.me, w.n.inst, h, ms⟩ } (fun tw => Term.startTerm tw c)).1.n with
              term := some (withTerm w { cfg := ⟨w.n.me, w.n.inst, h, ms⟩ } (fun tw => Term.startTerm tw c)).2 } }) := by
  unfold createTerm
  split
  · rename_i hmem
    split
    · exact Or.inr (Or.inl ⟨_, rfl⟩)
    · rename_i hlen
      exact Or.inr (Or.inr ⟨hmem, hlen, rfl⟩)
  · exact Or.inl rfl

structure Installed (w : WW) (h : Nat) (c : Bool) (w' : WW) : Prop where
  n : w'.n = { w.n with term := w'.n.term, hasHandler := true, cache := clearEarlier w.n.cache h, reg := w'.n.reg }
  outs : ∃ l, w'.outs = w.outs ++ (l ++ [.newRound h c]) ∧ ∀ o ∈ l, o = .stopTimer ∨ ∃ x, o = .term x
  term : (w'.n.term = none ∧ w'.n.reg = (Contexts.step w.n.reg (.for_ ⟨h, Term.maxView⟩)).1)
      ∨ ∃ ms sp, ms.any (fun m => m.id == w.n.me) = true ∧ ¬ ms.length < 4
        ∧ w'.n.term = some (Term.startTerm { n := { ({ cfg := ⟨w.n.me, w.n.inst, h, ms⟩ } : Term.Node) with
              reg := (Contexts.step w.n.reg (.for_ ⟨h, Term.maxView⟩)).1 }, spi := sp } c).n
        ∧ w'.n.reg = (Term.startTerm { n := { ({ cfg := ⟨w.n.me, w.n.inst, h, ms⟩ } : Term.Node) with
              reg := (Contexts.step w.n.reg (.for_ ⟨h, Term.maxView⟩)).1 }, spi := sp } c).n.reg

theorem Installed.me {w w' : WW} {h : Nat} {c : Bool} (hi : Installed w h c w') : w'.n.me = w.n.me := by rw [hi.n]
theorem Installed.inst {w w' : WW} {h : Nat} {c : Bool} (hi : Installed w h c w') : w'.n.inst = w.n.inst := by rw [hi.n]
theorem Installed.height {w w' : WW} {h : Nat} {c : Bool} (hi : Installed w h c w') : w'.n.height = w.n.height := by rw [hi.n]
theorem Installed.cache {w w' : WW} {h : Nat} {c : Bool} (hi : Installed w h c w') : w'.n.cache = clearEarlier w.n.cache h := by
  rw [hi.n]

theorem installTerm_spec (w : WW) (h : Nat) (c : Bool) : Installed w h c (installTerm w h c) := by
  obtain ⟨l1, e1, p1⟩ := disposeTerm_spec w
  obtain ⟨sp, e2⟩ := askCommittee_spec (disposeTerm w) h
  have q1 : ∀ o ∈ l1, o = WOut.stopTimer ∨ ∃ x, o = WOut.term x := fun o ho => .inl (p1 o ho)
  unfold installTerm
  dsimp only
  generalize (askCommittee (disposeTerm w) h).2 = ms
  have hc := createTerm_spec (askCommittee (disposeTerm w) h).1 h ms c
  -- the started worker is named before its three forms are put in: rewriting it in place is dear
  generalize createTerm (askCommittee (disposeTerm w) h).1 h ms c = w3 at hc ⊢
  rw [e2, e1] at hc
  rcases hc with rfl | ⟨s, rfl⟩ | ⟨hmem, hlen, rfl⟩
  · exact ⟨rfl, ⟨l1, List.append_assoc .., q1⟩, .inl ⟨rfl, rfl⟩⟩
  · refine ⟨rfl, ⟨l1 ++ [.term (.goPanic s)], by simp only [WW.emit, List.append_assoc], fun o ho => ?_⟩, .inl ⟨rfl, rfl⟩⟩
    exact (List.mem_append.mp ho).elim (q1 o) fun ho => .inr ⟨_, List.mem_singleton.mp ho⟩
  · refine ⟨rfl, ⟨l1 ++ _, by simp only [WW.emit, withTerm, List.append_assoc]; rfl, fun o ho => ?_⟩, .inr ⟨ms, _, hmem, hlen, rfl, rfl⟩⟩
    refine (List.mem_append.mp ho).elim (q1 o) fun ho => ?_
    obtain ⟨x, _, rfl⟩ := List.mem_map.mp ho
    exact .inr ⟨x, rfl⟩

/-! ### the primitive actions -/

/-- `Act G w w'`: one thing the code of `Model/Worker.lean` does to its state, together with what the
code has checked at that moment.  What is known of a message handed to the term (`MsgOK`: this instance, the
node's height, not the node's own) holds of a delivered message by the filter, of a cached one only if the cache
was well-formed to begin with.  `G` is that assumption, and the facts about messages are given as `G → …`.
Three uses: `G := True` in an invariant that carries `CacheOK` itself (C08Worker, C13Order); `G := CacheOK …` of
the state at hand (`step_frame`); `G := False` for statements about arbitrary states that never look at the
messages (C13Worker, C14, C15Worker). -/
inductive Act (G : Prop) : WW → WW → Prop
  /-- a registry operation: the worker's own `For`, the main loop's `CancelOlderThan` and `Shutdown` -/
  | reg (w : WW) (op : Contexts.Op) : Act G w { w with n := { w.n with reg := (Contexts.step w.n.reg op).1 } }
  /-- the consumer's answer to the commit callback is consumed -/
  | pop (w : WW) (sp : List WSpi) : Act G w { w with spi := sp }
  /-- the future cache changes: a future message is stored, a drained height is erased -/
  | cache (w : WW) (c : List (Nat × List Message)) (l : Nat) (hc : G → CacheOK w.n.me w.n.inst c) :
      Act G w { w with n := { w.n with cache := c, latest := l } }
  /-- `SetHeightAndResetView(h)` succeeded: the height goes up to `h` and the term of `h` is installed -/
  | start (w : WW) (h : Nat) (c : Bool) (hlt : w.n.height < h) :
      Act G w (installTerm { w with n := { w.n with height := h } } h c)
  /-- a message that passed the filter (this instance, the node's height, not from this node) is handed
  to the installed term -/
  | hand (w : WW) (t : Term.Node) (m : Message) (ht : w.n.term = some t) (hm : G → MsgOK w.n.me w.n.inst w.n.height m) :
      Act G w (handInTerm w t m).1
  /-- the same, when the term asks for the commit callback: the callback is made -/
  | commit (w : WW) (t : Term.Node) (m : Message) (b : Block) (cs : List CMsg) (ht : w.n.term = some t)
      (hm : G → MsgOK w.n.me w.n.inst w.n.height m) (hoc : (handInTerm w t m).2 = some (b, cs)) :
      Act G w ((handInTerm w t m).1.emit (.commitCb b (proofOf cs).1 (proofOf cs).2))
  /-- the election case of `Run` reaches the installed term (that `h` and `v` are the node's height and the
  term's view, which `election` has checked, is not recorded) -/
  | elect (w : WW) (t : Term.Node) (h v : Nat) (ht : w.n.term = some t) :
      Act G w { (withTerm w t (fun tw => Term.election tw h v)).1 with
        n := { (withTerm w t (fun tw => Term.election tw h v)).1.n with term := some (withTerm w t (fun tw => Term.election tw h v)).2 } }

inductive Acts (G : Prop) : WW → WW → Prop
  | refl (w : WW) : Acts G w w
  | cons {a b c : WW} : Act G a b → Acts G b c → Acts G a c

variable {G : Prop}

theorem Acts.one {a b : WW} (h : Act G a b) : Acts G a b := .cons h (.refl b)

theorem Acts.trans {a b c : WW} (h1 : Acts G a b) (h2 : Acts G b c) : Acts G a c := by
  induction h1 with
  | refl => exact h2
  | cons h _ ih => exact .cons h (ih h2)

theorem Acts.rel {R : WW → WW → Prop} (hrefl : ∀ w, R w w) (htrans : ∀ {a b c}, R a b → R b c → R a c)
    (hact : ∀ {a b}, Act G a b → R a b) {a b : WW} (h : Acts G a b) : R a b := by
  induction h with
  | refl w => exact hrefl w
  | cons h _ ih => exact htrans (hact h) ih

theorem Acts.inv {I : WW → Prop} (hact : ∀ {a b}, Act G a b → I a → I b) {a b : WW} (h : Acts G a b) : I a → I b :=
  Acts.rel (R := fun a b => I a → I b) (fun _ => id) (fun h1 h2 h => h2 (h1 h)) hact h

structure Frame (G : Prop) (a b : WW) : Prop where
  me : b.n.me = a.n.me
  inst : b.n.inst = a.n.inst
  height : a.n.height ≤ b.n.height
  cache : (G → CacheOK a.n.me a.n.inst a.n.cache) → G → CacheOK b.n.me b.n.inst b.n.cache

theorem Act.frame {a b : WW} (h : Act G a b) : Frame G a b := by
  cases h with
  | cache c l hc => exact ⟨rfl, rfl, Nat.le_refl _, fun _ => hc⟩
  | start h c hlt =>
    have hi := installTerm_spec { a with n := { a.n with height := h } } h c
    refine ⟨hi.me, hi.inst, Nat.le_of_lt (hi.height ▸ hlt), fun hc g => ?_⟩
    rw [hi.me, hi.inst, hi.cache]
    exact (hc g).filter _
  | _ => exact ⟨rfl, rfl, Nat.le_refl _, id⟩

theorem Acts.frame {a b : WW} (h : Acts G a b) : Frame G a b :=
  Acts.rel (fun _ => ⟨rfl, rfl, Nat.le_refl _, id⟩)
    (fun h1 h2 => ⟨h2.me.trans h1.me, h2.inst.trans h1.inst, Nat.le_trans h1.height h2.height, fun hc => h2.cache (h1.cache hc)⟩)
    Act.frame h

theorem Acts.erase {a b : WW} (h : Acts G a b) (hc : G → CacheOK a.n.me a.n.inst a.n.cache) (k : Nat) :
    Acts G a { b with n := { b.n with cache := cacheErase b.n.cache k } } :=
  h.trans (.one (.cache b (cacheErase b.n.cache k) b.n.latest fun g => (h.frame.cache hc g).filter _))

/-! ### the worker's functions are sequences of primitive actions -/

mutual
theorem newRound_acts : ∀ (fuel : Nat) (w : WW) (prevH : Nat) (c : Bool), (G → CacheOK w.n.me w.n.inst w.n.cache) →
    Acts G w (newRound fuel w prevH c)
  | 0, w, _, _, _ => by unfold newRound; exact .refl w
  | fuel + 1, w, prevH, c, hc => by
    unfold newRound
    dsimp only
    have h0 : Acts G w _ := .one (.reg w (.for_ ⟨wrap64 (prevH + 1), 0⟩))
    split
    · split
      · exact h0
      · rename_i hge
        have h1 := h0.trans (.one (.start _ (wrap64 (prevH + 1)) c (Nat.lt_of_not_ge hge)))
        have hc1 := h1.frame.cache hc
        exact (h1.trans (drain_acts fuel _ (wrap64 (prevH + 1)) _ hc1 (fun g => (hc1 g).get _))).erase hc _
    · exact h0
theorem drain_acts : ∀ (fuel : Nat) (w : WW) (height : Nat) (ms : List Message), (G → CacheOK w.n.me w.n.inst w.n.cache) →
    (G → ∀ m ∈ ms, MsgOK w.n.me w.n.inst height m) → Acts G w (drain fuel w height ms)
  | 0, w, _, _, _, _ => by unfold drain; exact .refl w
  | _ + 1, w, _, [], _, _ => by unfold drain; exact .refl w
  | fuel + 1, w, height, m :: rest, hc, hm => by
    -- whatever the delivery of `m` does, the rest is drained from there
    have cont : ∀ w', Acts G w w' → Acts G w (drain fuel w' height rest) := fun w' h =>
      h.trans (drain_acts fuel w' height rest (h.frame.cache hc)
        (by rw [h.frame.me, h.frame.inst]; exact fun g x hx => hm g x (List.mem_cons_of_mem _ hx)))
    unfold drain
    split
    · exact .refl w
    · rename_i hne
      have hm1 : G → MsgOK w.n.me w.n.inst w.n.height m := by
        rw [show w.n.height = height by simpa using hne]; exact fun g => hm g m (List.mem_cons_self ..)
      split
      · exact cont w (.refl w)
      · split
        · exact cont w (.refl w)
        · rename_i t ht
          dsimp only
          have h0 : Acts G w _ := .one (.hand w t m ht hm1)
          have h1 := Act.commit (G := G) w t m
          generalize handInTerm w t m = r at h0 h1 ⊢
          obtain ⟨w1, oc⟩ := r
          cases oc with
          | none => exact cont w1 h0
          | some bc =>
            obtain ⟨b, cs⟩ := bc
            have h1 := Acts.one (h1 b cs ht hm1 rfl)
            dsimp only
            split
            · rename_i sp _
              have h2 := h1.trans (.one (.pop _ sp))
              exact cont _ (h2.trans (newRound_acts fuel _ b.height true (h2.frame.cache hc)))
            · rename_i sp _
              exact cont _ (h1.trans (.one (.pop _ sp)))
            · exact cont _ h1
end

theorem deliver_cases (fuel : Nat) (w : WW) (m : Message) :
    deliver fuel w m = w ∨
    (MsgOK w.n.me w.n.inst (msgHeight m) m ∧
      ((w.n.height < msgHeight m ∧ deliver fuel w m = { w with n := pushToCache w.n m }) ∨
       (msgHeight m = w.n.height ∧ deliver fuel w m = drain fuel w (msgHeight m) [m]))) := by
  unfold deliver
  by_cases h1 : (msgSender m == w.n.me) = true
  · exact .inl (if_pos h1)
  by_cases h2 : msgHeight m < w.n.height
  · exact .inl (by rw [if_neg h1, if_pos h2])
  by_cases h3 : (msgInst m != w.n.inst) = true
  · exact .inl (by rw [if_neg h1, if_neg h2, if_pos h3])
  refine .inr ⟨⟨by simpa using h3, rfl, by simpa using h1⟩, ?_⟩
  rw [if_neg h1, if_neg h2, if_neg h3]
  by_cases h4 : msgHeight m > w.n.height
  · exact .inl ⟨h4, if_pos h4⟩
  · exact .inr ⟨Nat.le_antisymm (Nat.le_of_not_gt h4) (Nat.le_of_not_lt h2), if_neg h4⟩

theorem deliver_acts (fuel : Nat) (w : WW) (m : Message) (hc : G → CacheOK w.n.me w.n.inst w.n.cache) :
    Acts G w (deliver fuel w m) := by
  rcases deliver_cases fuel w m with e | ⟨hok, ⟨_, e⟩ | ⟨_, e⟩⟩ <;> rw [e]
  · exact .refl w
  · rw [(pushToCache_spec w.n m).1]
    exact .one (.cache w _ _ fun g => (pushToCache_spec w.n m).2 (hc g) hok)
  · exact drain_acts fuel w _ _ hc (fun _ x hx => List.mem_singleton.mp hx ▸ hok)

theorem election_acts (w : WW) (h v : Nat) : Acts G w (election w h v) := by
  unfold election
  cases ht : w.n.term with
  | none => simp only; split <;> exact .refl w
  | some t =>
    simp only
    split
    · exact .refl w
    · exact .one (.elect w t h v ht)

theorem updateState_acts (fuel : Nat) (w : WW) (bh : Nat) (hc : G → CacheOK w.n.me w.n.inst w.n.cache) :
    Acts G w (updateState fuel w bh) := by
  unfold updateState
  split
  · exact newRound_acts fuel w bh false hc
  · exact .refl w

theorem step_acts (fuel : Nat) (n : WNode) (e : WEvent) (spi : List WSpi) (hc : G → CacheOK n.me n.inst n.cache) :
    ∃ w', Acts G { n := n, spi := spi } w' ∧ Worker.step fuel n e spi = (w'.n, w'.outs) := by
  cases e with
  | deliver m => exact ⟨_, deliver_acts fuel _ m hc, rfl⟩
  | election h v => exact ⟨_, election_acts _ h v, rfl⟩
  | update bh => exact ⟨_, updateState_acts fuel _ bh hc, rfl⟩
  | cancelOlder h v => exact ⟨_, .one (.reg _ (.cancelOlderThan ⟨h, v⟩)), rfl⟩
  | shutdownCtx => exact ⟨_, .one (.reg _ .shutdown), rfl⟩

theorem step_frame (fuel : Nat) (n : WNode) (e : WEvent) (spi : List WSpi) :
    (Worker.step fuel n e spi).1.me = n.me ∧ (Worker.step fuel n e spi).1.inst = n.inst
    ∧ n.height ≤ (Worker.step fuel n e spi).1.height
    ∧ (CacheOK n.me n.inst n.cache → CacheOK (Worker.step fuel n e spi).1.me (Worker.step fuel n e spi).1.inst (Worker.step fuel n e spi).1.cache) := by
  obtain ⟨w', ha, hs⟩ := step_acts (G := CacheOK n.me n.inst n.cache) fuel n e spi id
  rw [hs]
  exact ⟨ha.frame.me, ha.frame.inst, ha.frame.height, ha.frame.cache id⟩

theorem run_inv {P : WNode → Prop} {fuel : Nat} (hstep : ∀ n e spi, P n → P (Worker.step fuel n e spi).1)
    (es : List (WEvent × List WSpi)) (n : WNode) (h : P n) : P (es.foldl (fun n x => (Worker.step fuel n x.1 x.2).1) n) :=
  List.foldlRecOn es _ h fun n hn x _ => hstep n x.1 x.2 hn

end LeanHelix.Worker
