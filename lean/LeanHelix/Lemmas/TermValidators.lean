import LeanHelix.Lemmas.Store
import LeanHelix.Lemmas.Weights
/-!
# What the validators of the term accept

The Boolean validators of `Model/Term.lean` (`validatePreparedProof`, `isViewChangeValid`, `validateVotes`, `lockOk`,
`lockConflict`, `isPreprepared`), each said once as the proposition it decides, with the conjuncts in the order of the
definition; what `latestVote` / `maxBy` pick; the exact result of `extractProof`; and `C07.ValidCertificate`, the
vocabulary of property C07 for "everything `handleNewView` checks".
First of all: a quorum is never empty, also when the weights overflow (`not_isQuorum_nil`), so every list of COMMITs
handed to the commit callback is non-empty and its first element determines height, view and hash of the certificate.
-/
namespace LeanHelix.Term
open LeanHelix LeanHelix.Msg

theorem isQuorum_nil (c : Term.Cfg) : Term.isQuorum c [] = false :=
  not_isQuorum_nil c.members

/-- no hypothesis on the weights: the threshold of the code is at least 1 even when the total wraps -/
theorem ne_nil_of_isQuorum {c : Term.Cfg} {ids : List Nat} (h : Term.isQuorum c ids = true) : ids ≠ [] := by
  intro e
  rw [e, isQuorum_nil] at h
  cases h

/-- the form its users have it in: the ids are read off a list of logged messages -/
theorem ne_nil_of_quorum {α : Type} {c : Cfg} {l : List α} {f : α → Nat} (h : isQuorum c (l.map f) = true) : l ≠ [] :=
  fun e => ne_nil_of_isQuorum h (e ▸ rfl)

theorem isMember_iff (c : Cfg) (id : Nat) : isMember c id = true ↔ ∃ m ∈ c.members, m.id = id := by
  simp [isMember]

theorem isLeader_ne {c : Cfg} {i j v : Nat} (h : isLeader c i v = true) (hne : i ≠ j) : isLeader c j v = false := by
  unfold isLeader at h ⊢
  rw [beq_eq_false_iff_ne, beq_iff_eq.mp h]
  exact hne

theorem validatePreparedProof_some (c : Cfg) (h v : Nat) (p : Proof) :
    validatePreparedProof c h v (some p) = true ↔
      p.ppRef.height = h ∧ p.ppRef.view < v
      ∧ isQuorum c (p.pSenders.map (·.id) ++ [p.ppSender.id]) = true
      ∧ p.ppSender.ok = true ∧ leaderId c p.ppRef.view = p.ppSender.id
      ∧ p.pRef.hash = p.ppRef.hash ∧ p.pRef.height = p.ppRef.height ∧ p.pRef.view = p.ppRef.view
      ∧ (∀ s ∈ p.pSenders, s.ok = true ∧ s.id ≠ p.ppSender.id ∧ isMember c s.id = true)
      ∧ (p.pSenders.map (·.id)).Nodup := by
  simp only [validatePreparedProof, Bool.and_eq_true, beq_iff_eq, decide_eq_true_eq, List.all_eq_true, bne_iff_ne, ne_eq,
    and_assoc]

theorem isViewChangeValid_iff (n : Node) (vc : VCContent) :
    isViewChangeValid n vc = true ↔
      vc.header.mtype = tVC ∧ vc.header.inst = n.cfg.inst ∧ isMember n.cfg vc.sender.id = true ∧ vc.sender.ok = true
      ∧ (∀ p, vc.header.proof = some p →
          p.ppRef.mtype = tPP ∧ p.pRef.mtype = tP ∧ p.ppRef.inst = n.cfg.inst ∧ p.pRef.inst = n.cfg.inst)
      ∧ validatePreparedProof n.cfg n.cfg.height vc.header.view vc.header.proof = true := by
  unfold isViewChangeValid
  cases hp : vc.header.proof <;> simp [hp, and_assoc]

theorem isViewChangeValid_cfg {a b : Node} (h : a.cfg = b.cfg) (vc : VCContent) :
    isViewChangeValid a vc = isViewChangeValid b vc := by
  unfold isViewChangeValid; rw [h]

theorem validateVotes_cfg {a b : Node} (h : a.cfg = b.cfg) (th tv : Nat) (votes : List VCContent) :
    validateVotes a th tv votes = validateVotes b th tv votes := by
  unfold validateVotes; rw [h]; simp only [isViewChangeValid_cfg h]

theorem lockOk_cfg {a b : Node} (h : a.cfg = b.cfg) (nvm : NVMsg) : lockOk a nvm = lockOk b nvm := by
  unfold lockOk; simp only [isViewChangeValid_cfg h]

theorem lockOk_iff (n : Node) (nvm : NVMsg) :
    lockOk n nvm = true ↔ ∀ lv, latestVote nvm.header.votes = some lv →
      isViewChangeValid n lv = true ∧ commitmentOk nvm.block (proofHash lv.header.proof) = true
      ∧ nvm.pp.header.hash = proofHash lv.header.proof := by
  unfold lockOk
  cases latestVote nvm.header.votes <;> simp [and_assoc]

theorem lockConflict_iff (n : Node) (ppm : PPMsg) :
    lockConflict n ppm = true ↔ ∃ pv locked, n.prepared = some pv ∧ ppm.c.header.view > pv
      ∧ n.store.getPP ppm.c.header.height pv = some locked ∧ locked.c.header.hash ≠ ppm.c.header.hash := by
  unfold lockConflict
  cases n.prepared with
  | none => simp
  | some pv => cases hg : n.store.getPP ppm.c.header.height pv <;> simp [hg]

theorem lockConflict_congr {a b : Node} (hp : b.prepared = a.prepared) (hs : b.store.pps = a.store.pps) (ppm : PPMsg) :
    lockConflict b ppm = lockConflict a ppm := by
  unfold lockConflict Store.getPP; rw [hp, hs]

theorem isPreprepared_iff (n : Node) (h v hash : Nat) :
    isPreprepared n h v hash = true ↔
      ∃ ppm, n.store.getPP h v = some ppm ∧ ppm.block.isSome = true ∧ ppm.c.header.hash = hash := by
  unfold isPreprepared
  cases n.store.getPP h v <;> simp

theorem extractProof_eq_some {n : Node} {pv : Nat} {p : Proof} {b : Option Block} :
    extractProof n pv = some (p, b) ↔
      ∃ ppm p0 ps, n.store.getPP n.cfg.height pv = some ppm
        ∧ n.store.getPrepares n.cfg.height pv ppm.c.header.hash = p0 :: ps
        ∧ isQuorum n.cfg ((p0 :: ps).map (·.sender.id) ++ [ppm.c.sender.id]) = true
        ∧ p = ⟨⟨tPP, ppm.c.header.inst, ppm.c.header.height, ppm.c.header.view, ppm.c.header.hash⟩, ppm.c.sender,
               ⟨tP, p0.header.inst, p0.header.height, p0.header.view, p0.header.hash⟩, (p0 :: ps).map (·.sender)⟩
        ∧ b = ppm.block := by
  -- `hasPrepareView` does not show in the statement: a PREPARE for (height, pv, hash) is one for (height, pv)
  have hpv : ∀ {hash p0 ps}, n.store.getPrepares n.cfg.height pv hash = p0 :: ps →
      n.store.hasPrepareView n.cfg.height pv = true := by
    intro hash p0 ps hps
    obtain ⟨hin, h1, h2, _⟩ := mem_getPrepares.mp (show p0 ∈ n.store.getPrepares n.cfg.height pv hash by
      rw [hps]; exact List.mem_cons_self ..)
    exact List.any_eq_true.mpr ⟨p0, hin, by simp [h1, h2]⟩
  constructor
  · intro h
    unfold extractProof at h
    cases hg : n.store.getPP n.cfg.height pv with
    | none => simp [hg] at h
    | some ppm =>
      simp only [hg] at h
      split at h
      · cases h
      rename_i hq
      split at h
      · cases h
      split at h
      · cases h
      rename_i p0 ps hps
      simp only [Option.some.injEq, Prod.mk.injEq] at h
      exact ⟨ppm, p0, ps, rfl, hps, by rw [← hps]; simpa using hq, by rw [← hps]; exact h.1.symm, h.2.symm⟩
  · rintro ⟨ppm, p0, ps, hg, hps, hq, rfl, rfl⟩
    unfold extractProof
    simp only [hg, hps, hq, hpv hps, Bool.not_true, Bool.false_eq_true, if_false]

theorem extractProof_isSome_iff {n : Node} {pv : Nat} :
    (extractProof n pv).isSome = true ↔ ∃ ppm, n.store.getPP n.cfg.height pv = some ppm
      ∧ isQuorum n.cfg ((n.store.getPrepares n.cfg.height pv ppm.c.header.hash).map (·.sender.id) ++ [ppm.c.sender.id]) = true
      ∧ n.store.getPrepares n.cfg.height pv ppm.c.header.hash ≠ [] := by
  constructor
  · intro h
    obtain ⟨⟨p, b⟩, hx⟩ := Option.isSome_iff_exists.mp h
    obtain ⟨ppm, p0, ps, hg, hps, hq, _⟩ := extractProof_eq_some.mp hx
    exact ⟨ppm, hg, hps ▸ hq, hps ▸ List.cons_ne_nil _ _⟩
  · rintro ⟨ppm, hg, hq, hne⟩
    obtain ⟨p0, ps, hl⟩ := List.exists_cons_of_ne_nil hne
    rw [hl] at hq
    exact Option.isSome_iff_exists.mpr ⟨_, extractProof_eq_some.mpr ⟨ppm, p0, ps, hg, hl, hq, rfl, rfl⟩⟩

theorem extractProof_isSome (n : Node) (pv : Nat) (ppm : PPMsg)
    (hg : n.store.getPP n.cfg.height pv = some ppm)
    (hq : isQuorum n.cfg ((n.store.getPrepares n.cfg.height pv ppm.c.header.hash).map (·.sender.id) ++ [ppm.c.sender.id]) = true)
    (hne : n.store.getPrepares n.cfg.height pv ppm.c.header.hash ≠ []) :
    (extractProof n pv).isSome = true :=
  extractProof_isSome_iff.mpr ⟨ppm, hg, hq, hne⟩

end LeanHelix.Term

namespace LeanHelix.C07
open LeanHelix LeanHelix.Msg LeanHelix.Term

def VoteValid (n : Node) (h v : Nat) (vc : VCContent) : Prop :=
  vc.header.height = h ∧ vc.header.view = v ∧ isViewChangeValid n vc = true

/-- what property C07 calls a valid certificate: the guards of `handleNewView` (`Term.nvGuards_iff`) with `validateVotes`
and `lockOk` spelled out. `lockOk`'s validity check of the latest vote is not repeated: that vote is one of the votes. -/
def ValidCertificate (n : Node) (nvm : NVMsg) : Prop :=
  nvm.header.mtype = tNV
  ∧ ¬ n.view > nvm.header.view
  ∧ nvm.sender.ok = true
  ∧ isLeader n.cfg nvm.sender.id nvm.header.view = true
  ∧ isQuorum n.cfg (nvm.header.votes.map (·.sender.id)) = true
  ∧ (∀ vc ∈ nvm.header.votes, VoteValid n nvm.header.height nvm.header.view vc)
  ∧ (nvm.header.votes.map (·.sender.id)).Nodup
  ∧ nvm.pp.header.view = nvm.header.view
  ∧ nvm.pp.header.height = nvm.header.height
  ∧ nvm.pp.header.inst = n.cfg.inst
  ∧ (∀ lv, latestVote nvm.header.votes = some lv →
        commitmentOk nvm.block (proofHash lv.header.proof) = true
        ∧ nvm.pp.header.hash = proofHash lv.header.proof)

theorem validateVotes_iff (n : Node) (h v : Nat) (votes : List VCContent) :
    validateVotes n h v votes = true ↔
      (isQuorum n.cfg (votes.map (·.sender.id)) = true ∧ (∀ vc ∈ votes, VoteValid n h v vc)
        ∧ (votes.map (·.sender.id)).Nodup) := by
  unfold validateVotes VoteValid
  simp only [Bool.and_eq_true, List.all_eq_true, beq_iff_eq, decide_eq_true_eq]
  constructor
  · rintro ⟨⟨a, b⟩, c⟩; exact ⟨a, fun vc hvc => ⟨(b vc hvc).1.1, (b vc hvc).1.2, (b vc hvc).2⟩, c⟩
  · rintro ⟨a, b, c⟩; exact ⟨⟨a, fun vc hvc => ⟨⟨(b vc hvc).1, (b vc hvc).2.1⟩, (b vc hvc).2.2⟩⟩, c⟩

theorem maxBy_spec {α} (key : α → Nat) (l : List α) :
    (maxBy key l = none ↔ l = []) ∧
    (∀ x, maxBy key l = some x → x ∈ l ∧ ∀ y ∈ l, key y ≤ key x) := by
  induction l with
  | nil => simp [maxBy]
  | cons a as ih =>
    constructor
    · constructor
      · intro h; unfold maxBy at h; cases hm : maxBy key as <;> simp [hm] at h
        split at h <;> cases h
      · intro h; cases h
    · intro x hx
      unfold maxBy at hx
      cases hm : maxBy key as with
      | none =>
        simp [hm] at hx; subst hx
        have : as = [] := ih.1.mp hm
        subst this; simp
      | some y =>
        simp only [hm] at hx
        obtain ⟨hy, hmax⟩ := ih.2 y hm
        by_cases hgt : key y > key a
        · simp only [hgt, if_true, Option.some.injEq] at hx; subst hx
          refine ⟨List.mem_cons_of_mem _ hy, ?_⟩
          intro z hz; simp at hz
          rcases hz with rfl | hz
          · omega
          · exact hmax z hz
        · simp only [hgt, if_false, Option.some.injEq] at hx; subst hx
          refine ⟨List.mem_cons_self .., ?_⟩
          intro z hz; simp at hz
          rcases hz with rfl | hz
          · omega
          · have := hmax z hz; omega

theorem maxBy_filter {α} (key : α → Nat) (p : α → Bool) (l : List α) :
    (maxBy key (l.filter p) = none ↔ ∀ x ∈ l, p x = false) ∧
    (∀ x, maxBy key (l.filter p) = some x → x ∈ l ∧ p x = true ∧ ∀ y ∈ l, p y = true → key y ≤ key x) := by
  obtain ⟨h1, h2⟩ := maxBy_spec key (l.filter p)
  refine ⟨h1.trans (by simp [List.filter_eq_nil_iff]), fun x hx => ?_⟩
  obtain ⟨hm, hmax⟩ := h2 x hx
  exact ⟨(List.mem_filter.mp hm).1, (List.mem_filter.mp hm).2, fun y hy hp => hmax y (List.mem_filter.mpr ⟨hy, hp⟩)⟩

/-- **The vote the proposal is checked against is the highest-view prepared proof among the votes**;
and there is none iff no vote carries a proof. -/
theorem latestVote_is_highest (votes : List VCContent) :
    (latestVote votes = none ↔ ∀ v ∈ votes, v.header.proof = none) ∧
    (∀ lv, latestVote votes = some lv →
        lv ∈ votes ∧ lv.header.proof.isSome = true ∧
        ∀ v ∈ votes, v.header.proof.isSome = true → proofView v.header.proof ≤ proofView lv.header.proof) := by
  obtain ⟨h1, h2⟩ := maxBy_filter (fun (v : VCContent) => proofView v.header.proof) (fun v => v.header.proof.isSome) votes
  exact ⟨h1.trans (by simp), h2⟩

/-- the same with the proofs named: what `Spec.newViewJust` asks of the selected vote -/
theorem latestVote_spec (votes : List VCContent) :
    (latestVote votes = none → ∀ c ∈ votes, c.header.proof = none)
    ∧ ∀ lv, latestVote votes = some lv → lv ∈ votes ∧ ∃ p0, lv.header.proof = some p0
        ∧ ∀ c ∈ votes, ∀ p, c.header.proof = some p → p.ppRef.view ≤ p0.ppRef.view := by
  obtain ⟨h1, h2⟩ := latestVote_is_highest votes
  refine ⟨h1.mp, fun lv hlv => ?_⟩
  obtain ⟨hin, hsome, hmax⟩ := h2 lv hlv
  cases hp0 : lv.header.proof with
  | none => rw [hp0] at hsome; cases hsome
  | some p0 =>
    refine ⟨hin, p0, rfl, fun c hc p hp => ?_⟩
    have := hmax c hc (by rw [hp]; rfl)
    simpa only [hp, hp0, proofView] using this

/-! The leader selects among the logged votes (`latestBlockFromVCs`), a follower among their contents inside the NEW_VIEW
(`latestVote`).  Among votes that carry a block exactly if they carry a proof — `handleViewChange` logs no other as
long as no block has the empty hash (`C11.VoteChecked.block_iff_proof`) — the two pick the same vote. -/

theorem maxBy_map {α β} (f : α → β) (key : β → Nat) (l : List α) :
    maxBy key (l.map f) = (maxBy (fun a => key (f a)) l).map f := by
  induction l with
  | nil => rfl
  | cons a as ih =>
    simp only [List.map_cons, maxBy, ih]
    cases maxBy (fun a => key (f a)) as with
    | none => rfl
    | some y =>
      simp only [Option.map_some]
      split <;> rfl

theorem latestBlock_latestVote {vcs : List VCMsg} (hvb : ∀ m ∈ vcs, m.block.isSome = m.c.header.proof.isSome) :
    (latestVote (vcs.map (·.c)) = none ∧ latestBlockFromVCs vcs = none) ∨
    ∃ m ∈ vcs, ∃ b p, m.block = some b ∧ m.c.header.proof = some p ∧ latestVote (vcs.map (·.c)) = some m.c
      ∧ latestBlockFromVCs vcs = some (b, p.pRef.hash) := by
  have hf : (vcs.map (·.c)).filter (fun v => v.header.proof.isSome) = (vcs.filter (fun m => m.block.isSome)).map (·.c) := by
    rw [List.filter_map]
    exact congrArg _ (List.filter_congr fun m hm => (hvb m hm).symm)
  unfold latestVote latestBlockFromVCs
  rw [hf, maxBy_map]
  cases hmx : maxBy (fun (m : VCMsg) => proofView m.c.header.proof) (vcs.filter (fun m => m.block.isSome)) with
  | none => exact .inl ⟨rfl, rfl⟩
  | some m =>
    obtain ⟨hm, hb, _⟩ := (maxBy_filter _ _ vcs).2 m hmx
    obtain ⟨b, hbk⟩ := Option.isSome_iff_exists.mp hb
    obtain ⟨p, hpf⟩ := Option.isSome_iff_exists.mp ((hvb m hm) ▸ hb)
    exact .inr ⟨m, hm, b, p, hbk, hpf, rfl, by simp only [hbk, hpf]⟩

end LeanHelix.C07

namespace LeanHelix.C09
open LeanHelix LeanHelix.Msg LeanHelix.Term

theorem latestBlockFromVCs_spec (vcs : List VCMsg) :
    (latestBlockFromVCs vcs = none ↔ ∀ m ∈ vcs, m.block = none) ∧
    (∀ b hash, latestBlockFromVCs vcs = some (b, hash) →
      ∃ m ∈ vcs, m.block = some b
        ∧ hash = (match m.c.header.proof with | some p => p.pRef.hash | none => emptyBytes)
        ∧ ∀ m' ∈ vcs, m'.block.isSome = true → proofView m'.c.header.proof ≤ proofView m.c.header.proof) := by
  obtain ⟨h1, h2⟩ := C07.maxBy_filter (fun (m : VCMsg) => proofView m.c.header.proof) (fun m => m.block.isSome) vcs
  unfold latestBlockFromVCs
  cases hm : maxBy (fun (m : VCMsg) => proofView m.c.header.proof) (vcs.filter (fun m => m.block.isSome)) with
  | none => exact ⟨⟨fun _ => by simpa using h1.mp hm, fun _ => rfl⟩, nofun⟩
  | some m =>
    obtain ⟨hin, hb, hmax⟩ := h2 m hm
    obtain ⟨b, hb⟩ := Option.isSome_iff_exists.mp hb
    simp only [hb]
    refine ⟨⟨nofun, fun h => ?_⟩, fun b' hash h => ?_⟩
    · rw [h m hin] at hb; cases hb
    · cases h; exact ⟨m, hin, hb, rfl, hmax⟩

end LeanHelix.C09
