/-!
# The future cache, once for both models

`Model/Filter.lean` (over `FMsg`) and `Model/Worker.lean` (over real messages) model `futureCache` by the same four
list functions: `clearEarlier` and `cacheErase` are `List.filter`s, `cacheGet` is a `match` on a `find?`, and
`Cache.append` is the body of `cacheAppend` over any message type (`Filter.cacheAppend c h m` and
`Worker.cacheAppend c h m` unfold to it).  `Cache.All P c` says that every cached message satisfies `P` at the height
it is cached under.
The invariant of the filter kernel (`C17.Inv.cache_ok`) and of the worker (`Worker.CacheOK`, `C08.WInv.cache`) are
both `All`, kept by the same three facts.
-/
namespace LeanHelix.Cache

variable {α : Type} {P : Nat → α → Prop} {c : List (Nat × List α)}

def append (c : List (Nat × List α)) (h : Nat) (m : α) : List (Nat × List α) :=
  if c.any (fun p => p.1 == h) then c.map (fun p => if p.1 == h then (p.1, p.2 ++ [m]) else p)
  else c ++ [(h, [m])]

def All (P : Nat → α → Prop) (c : List (Nat × List α)) : Prop := ∀ p ∈ c, ∀ m ∈ p.2, P p.1 m

theorem All.filter (h : All P c) (q : Nat × List α → Bool) : All P (c.filter q) := fun p hp => h p (List.mem_filter.mp hp).1

/-- `cacheGet` of either model is a `match` on this `find?` -/
theorem All.find (h : All P c) {k : Nat} {p : Nat × List α} (hf : c.find? (fun p => p.1 == k) = some p) :
    ∀ m ∈ p.2, P k m := by
  have e := List.find?_some hf
  exact (beq_iff_eq.mp e : p.1 = k) ▸ h p (List.mem_of_find?_eq_some hf)

theorem All.append (h : All P c) {k : Nat} {m : α} (hm : P k m) : All P (append c k m) := by
  intro p hp x hx
  unfold Cache.append at hp
  split at hp
  · obtain ⟨q, hq, rfl⟩ := List.mem_map.mp hp
    by_cases hk : (q.1 == k) = true
    · rw [if_pos hk] at hx ⊢
      rcases List.mem_append.mp hx with hx | hx
      · exact h q hq x hx
      · rw [List.mem_singleton.mp hx, beq_iff_eq.mp hk]; exact hm
    · rw [if_neg hk] at hx ⊢; exact h q hq x hx
  · rcases List.mem_append.mp hp with hp | hp
    · exact h p hp x hx
    · cases List.mem_singleton.mp hp; cases List.mem_singleton.mp hx; exact hm

end LeanHelix.Cache
