import LeanHelix.Lemmas.TermActs
/-!
# A node's own PREPAREs are only for views it does not lead

`OwnNL n op`: if `op` inserts a PREPARE signed by this node, this node is not the leader of that
PREPARE's view.  Received PREPAREs are never this node's own (the worker drops its own messages);
the node creates a PREPARE only when adopting a proposal signed by the leader of its view, who is
not this node (again because own messages are dropped).  Hence the invariant `OwnPreparesNL`.
-/
namespace LeanHelix.Term
open LeanHelix LeanHelix.Msg

def OwnNL (n : Node) : StoreOp → Prop
  | .prepare pm => pm.sender = mySig n.cfg → isLeader n.cfg n.cfg.me pm.header.view = false
  | _ => True

def OwnPreparesNL (n : Node) : Prop :=
  ∀ pm ∈ n.store.prepares, pm.sender = mySig n.cfg → isLeader n.cfg n.cfg.me pm.header.view = false

theorem ownPreparesNL_init (c : Cfg) : OwnPreparesNL { cfg := c } := by intro pm h; cases h

theorem ownPreparesNL_evolves {a b : Node} (h : Evolves OwnNL a b) (ha : OwnPreparesNL a) : OwnPreparesNL b :=
  h.prepares (A := fun c pm => pm.sender = mySig c → isLeader c c.me pm.header.view = false) (fun _ _ hp => hp) ha

theorem not_leader_of_validated (n : Node) (ppm : PPMsg) (hv : validatePreprepare n ppm = true) (hs : ppm.c.sender.id ≠ n.cfg.me) :
    isLeader n.cfg n.cfg.me ppm.c.header.view = false :=
  isLeader_ne ((C08.validatePreprepare_iff n ppm).mp hv).2.2.1 hs

/-- the delivered message is not this node's own (the worker drops those); only for the three kinds
of message whose sender matters here -/
def NotOwn (c : Cfg) : Event → Prop
  | .deliver (.preprepare m) => m.c.sender.id ≠ c.me
  | .deliver (.prepare m) => m.sender.id ≠ c.me
  | .deliver (.newView m) => m.sender.id ≠ c.me
  | _ => True

variable {e : Event}

theorem AccSrc.notLeader {n : Node} {ppm : PPMsg} (hn : NotOwn n.cfg e) (h : AccSrc e n ppm)
    (hauth : C08.PreprepareAuthentic n ppm) : isLeader n.cfg n.cfg.me ppm.c.header.view = false := by
  rcases h with ⟨rfl, _⟩ | ⟨nvm, rfl, rfl, g⟩
  · exact isLeader_ne hauth.leader hn
  · -- the proposal inside a NEW_VIEW is signed by the leader of the NEW_VIEW's view, who sent the NEW_VIEW
    refine isLeader_ne hauth.leader fun e => hn ?_
    rw [← beq_iff_eq.mp g.leader, ← g.ppView, beq_iff_eq.mp hauth.leader]
    exact e

theorem Act.evolvesNL {a b : W} (hn : NotOwn a.n.cfg e) (h : Act e a b) : Evolves OwnNL a.n b.n := by
  cases h with
  | log op hop hj =>
    refine .insert op ?_
    cases e with
    | deliver m =>
      cases m <;> cases hop <;> try trivial
      intro he; exact absurd (by rw [he]; rfl) hn
    | _ => cases hop
  | accept ppm hsrc hauth hv =>
    have hnl := hsrc.notLeader hn hauth
    exact .trans (.insert (.pp ppm) trivial) (.insert (.prepare _) (fun _ => hnl))
  | prepared h v hash hce hc => exact .trans (.insert (.commit (ownCommit a.n.cfg h v hash)) trivial) (.other ⟨rfl, rfl⟩)
  | propose b hash v o hv hlead ho => exact .insert (.pp _) trivial
  | voteStore vc hj hown => exact .insert (.vc vc) trivial
  | _ => exact .other ⟨rfl, rfl⟩

theorem Acts.evolvesNL {a b : W} (h : Acts e a b) (hn : NotOwn a.n.cfg e) : Evolves OwnNL a.n b.n :=
  Acts.rel (R := fun a b => NotOwn a.n.cfg e → Evolves OwnNL a.n b.n) (fun _ _ => .refl _)
    (fun h1 h2 hn => .trans (h1 hn) (h2 (by rw [(h1 hn).cfg]; exact hn))) (fun h hn => h.evolvesNL hn) h hn

end LeanHelix.Term
