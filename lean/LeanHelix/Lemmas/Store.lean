import LeanHelix.Model.Term
/-!
# The message log: four keyed lists with first-wins insertion

`InMemoryStorage` keeps four lists.  Each `storeX` appends its message unless a message with the
same key is there already; each `getX` filters by a part of the key.  Everything the proofs need to
know about the log is said here once: what an insert does to its own list (`FirstWins`), that it
leaves the other three alone, what a lookup returns, and that distinct keys give distinct senders.
The last section is how the log of a node changes along a run: only by inserts (`Evolves`).
-/
namespace LeanHelix

/-! ## the keys -/

namespace C03
open LeanHelix.Msg
def ckey (cm : CMsg) : Nat × Nat × Nat × Nat := (cm.header.height, cm.header.view, cm.header.hash, cm.sender.id)
end C03

namespace C11
open LeanHelix.Msg
def pkey (m : PMsg) : Nat × Nat × Nat × Nat := (m.header.height, m.header.view, m.header.hash, m.sender.id)
def vkey (m : VCMsg) : Nat × Nat × Nat := (m.c.header.height, m.c.header.view, m.c.sender.id)
end C11

namespace Term
open LeanHelix LeanHelix.Msg

/-! ## first-wins insertion, for any list and key -/

def FirstWins {α κ} (key : α → κ) (l : List α) (m : α) (l' : List α) : Prop :=
  (key m ∈ l.map key ∧ l' = l) ∨ (key m ∉ l.map key ∧ l' = l ++ [m])

namespace FirstWins
variable {α κ} {key : α → κ} {l l' : List α} {m : α}

theorem mem (h : FirstWins key l m l') {x : α} (hx : x ∈ l') : x ∈ l ∨ x = m := by
  rcases h with ⟨_, rfl⟩ | ⟨_, rfl⟩
  · exact Or.inl hx
  · simpa using hx

theorem pfx (h : FirstWins key l m l') : l <+: l' := by
  rcases h with ⟨_, rfl⟩ | ⟨_, rfl⟩
  · exact List.prefix_refl _
  · exact List.prefix_append _ _

theorem has_key (h : FirstWins key l m l') : key m ∈ l'.map key := by
  rcases h with ⟨hk, rfl⟩ | ⟨_, rfl⟩
  · exact hk
  · simp

theorem nodup (h : FirstWins key l m l') (hl : (l.map key).Nodup) : (l'.map key).Nodup := by
  rcases h with ⟨_, rfl⟩ | ⟨hk, rfl⟩
  · exact hl
  · rw [List.map_append, List.nodup_append]
    refine ⟨hl, by simp, ?_⟩
    intro a ha b hb
    simp only [List.map_cons, List.map_nil, List.mem_singleton] at hb
    subst hb
    intro e; subst e; exact hk ha

end FirstWins

theorem nodup_ids_of_keys {α κ ι} (key : α → κ) (id : α → ι) (p : α → Bool) (l : List α)
    (hk : (l.map key).Nodup)
    (hp : ∀ x y, p x = true → p y = true → id x = id y → key x = key y) :
    ((l.filter p).map id).Nodup := by
  rw [List.Nodup, List.pairwise_map] at hk ⊢
  refine List.Pairwise.imp_of_mem ?_ (hk.filter p)
  intro x y hx hy hne hid
  exact hne (hp x y (List.mem_filter.mp hx).2 (List.mem_filter.mp hy).2 hid)

/-! ## what each insert does to its own list -/

def ppkey (m : PPMsg) : Nat × Nat := (m.c.header.height, m.c.header.view)

theorem storePP_firstWins (s : Store) (m : PPMsg) : FirstWins ppkey s.pps m (s.storePP m).pps := by
  unfold Store.storePP FirstWins
  cases hg : s.getPP m.c.header.height m.c.header.view with
  | some p =>
    have := List.find?_some hg
    simp only [Bool.and_eq_true, beq_iff_eq] at this
    exact Or.inl ⟨List.mem_map.mpr ⟨p, List.mem_of_find?_eq_some hg, by simp [ppkey, this]⟩, rfl⟩
  | none =>
    refine Or.inr ⟨?_, rfl⟩
    simp only [Store.getPP, List.find?_eq_none, Bool.and_eq_true, beq_iff_eq] at hg
    simpa [ppkey] using hg

theorem storePrepare_firstWins (s : Store) (m : PMsg) : FirstWins C11.pkey s.prepares m (s.storePrepare m).prepares := by
  unfold Store.storePrepare FirstWins
  simp only [List.mem_map, C11.pkey, Prod.mk.injEq, List.any_eq_true, Bool.and_eq_true, beq_iff_eq, and_assoc]
  split <;> simp [*]

theorem storeCommit_firstWins (s : Store) (m : CMsg) : FirstWins C03.ckey s.commits m (s.storeCommit m).commits := by
  unfold Store.storeCommit FirstWins
  simp only [List.mem_map, C03.ckey, Prod.mk.injEq, List.any_eq_true, Bool.and_eq_true, beq_iff_eq, and_assoc]
  split <;> simp [*]

theorem storeVC_firstWins (s : Store) (m : VCMsg) : FirstWins C11.vkey s.vcs m (s.storeVC m).vcs := by
  unfold Store.storeVC FirstWins
  simp only [List.mem_map, C11.vkey, Prod.mk.injEq, List.any_eq_true, Bool.and_eq_true, beq_iff_eq, and_assoc]
  split <;> simp [*]

/-! ## lookups -/

theorem getPP_spec {s : Store} {h v : Nat} {ppm : PPMsg} (hg : s.getPP h v = some ppm) :
    ppm ∈ s.pps ∧ ppm.c.header.height = h ∧ ppm.c.header.view = v := by
  have h2 := List.find?_some hg
  simp only [Bool.and_eq_true, beq_iff_eq] at h2
  exact ⟨List.mem_of_find?_eq_some hg, h2.1, h2.2⟩

theorem getPP_eq_none {s : Store} {h v : Nat} :
    s.getPP h v = none ↔ ∀ p ∈ s.pps, ¬ (p.c.header.height = h ∧ p.c.header.view = v) := by
  simp [Store.getPP]

theorem mem_getPrepares {s : Store} {h v hash : Nat} {pm : PMsg} :
    pm ∈ s.getPrepares h v hash ↔ pm ∈ s.prepares ∧ pm.header.height = h ∧ pm.header.view = v ∧ pm.header.hash = hash := by
  simp [Store.getPrepares, and_assoc]

theorem mem_getCommits {s : Store} {h v hash : Nat} {cm : CMsg} :
    cm ∈ s.getCommits h v hash ↔ cm ∈ s.commits ∧ cm.header.height = h ∧ cm.header.view = v ∧ cm.header.hash = hash := by
  simp [Store.getCommits, and_assoc]

theorem mem_getCommits_all {s : Term.Store} {h v hash : Nat} {cm : CMsg} (hm : cm ∈ s.getCommits h v hash) :
    cm ∈ s.commits ∧ cm.header.height = h ∧ cm.header.view = v ∧ cm.header.hash = hash :=
  mem_getCommits.mp hm

theorem mem_getCommits_height {s : Term.Store} {h v hash : Nat} {cm : CMsg} (hm : cm ∈ s.getCommits h v hash) :
    cm.header.height = h :=
  (mem_getCommits_all hm).2.1

theorem mem_getVCs {s : Store} {h v : Nat} {m : VCMsg} :
    m ∈ s.getVCs h v ↔ m ∈ s.vcs ∧ m.c.header.height = h ∧ m.c.header.view = v := by
  simp [Store.getVCs]

theorem mem_getPrepares_ids {s : Store} {h v hash id : Nat} :
    id ∈ (s.getPrepares h v hash).map (·.sender.id) ↔ (h, v, hash, id) ∈ s.prepares.map C11.pkey := by
  simp only [List.mem_map, mem_getPrepares, C11.pkey, Prod.mk.injEq]
  constructor
  · rintro ⟨x, ⟨a, b, c, d⟩, e⟩; exact ⟨x, a, b, c, d, e⟩
  · rintro ⟨x, a, b, c, d, e⟩; exact ⟨x, ⟨a, b, c, d⟩, e⟩

theorem mem_getCommits_ids {s : Store} {h v hash id : Nat} :
    id ∈ (s.getCommits h v hash).map (·.sender.id) ↔ (h, v, hash, id) ∈ s.commits.map C03.ckey := by
  simp only [List.mem_map, mem_getCommits, C03.ckey, Prod.mk.injEq]
  constructor
  · rintro ⟨x, ⟨a, b, c, d⟩, e⟩; exact ⟨x, a, b, c, d, e⟩
  · rintro ⟨x, a, b, c, d, e⟩; exact ⟨x, ⟨a, b, c, d⟩, e⟩

theorem mem_getVCs_ids {s : Store} {h v id : Nat} :
    id ∈ (s.getVCs h v).map (·.c.sender.id) ↔ (h, v, id) ∈ s.vcs.map C11.vkey := by
  simp only [List.mem_map, mem_getVCs, C11.vkey, Prod.mk.injEq]
  constructor
  · rintro ⟨x, ⟨a, b, c⟩, e⟩; exact ⟨x, a, b, c, e⟩
  · rintro ⟨x, a, b, c, e⟩; exact ⟨x, ⟨a, b, c⟩, e⟩

theorem getPrepares_ids_nodup (s : Store) (h v hash : Nat) (hk : (s.prepares.map C11.pkey).Nodup) :
    ((s.getPrepares h v hash).map (·.sender.id)).Nodup := by
  refine nodup_ids_of_keys C11.pkey _ _ _ hk ?_
  intro x y hx hy hid
  simp only [Bool.and_eq_true, beq_iff_eq] at hx hy
  simp only [C11.pkey, Prod.mk.injEq]
  exact ⟨by rw [hx.1.1, hy.1.1], by rw [hx.1.2, hy.1.2], by rw [hx.2, hy.2], hid⟩

theorem getCommits_ids_nodup (s : Store) (h v hash : Nat) (hk : (s.commits.map C03.ckey).Nodup) :
    ((s.getCommits h v hash).map (·.sender.id)).Nodup := by
  refine nodup_ids_of_keys C03.ckey _ _ _ hk ?_
  intro x y hx hy hid
  simp only [Bool.and_eq_true, beq_iff_eq] at hx hy
  simp only [C03.ckey, Prod.mk.injEq]
  exact ⟨by rw [hx.1.1, hy.1.1], by rw [hx.1.2, hy.1.2], by rw [hx.2, hy.2], hid⟩

theorem getVCs_ids_nodup (s : Store) (h v : Nat) (hk : (s.vcs.map C11.vkey).Nodup) :
    ((s.getVCs h v).map (·.c.sender.id)).Nodup := by
  refine nodup_ids_of_keys C11.vkey _ _ _ hk ?_
  intro x y hx hy hid
  simp only [Bool.and_eq_true, beq_iff_eq] at hx hy
  simp only [C11.vkey, Prod.mk.injEq]
  exact ⟨by rw [hx.1, hy.1], by rw [hx.2, hy.2], hid⟩

/-! ## proposals: at most one per (height, view), the first one stays -/

theorem getPP_pps {s t : Store} (hp : t.pps = s.pps) (h v : Nat) : t.getPP h v = s.getPP h v := by
  unfold Store.getPP; rw [hp]

theorem getPP_of_prefix {s t : Store} (hp : s.pps <+: t.pps) {h v : Nat} {p : PPMsg} (hg : s.getPP h v = some p) :
    t.getPP h v = some p := by
  obtain ⟨r, hr⟩ := hp
  unfold Store.getPP at hg ⊢
  rw [← hr, List.find?_append, hg, Option.some_or]

theorem storePP_getPP_stable (s : Store) (m : PPMsg) (h v : Nat) (p : PPMsg) (hp : s.getPP h v = some p) :
    (s.storePP m).getPP h v = some p := getPP_of_prefix (storePP_firstWins s m).pfx hp

theorem storePP_getPP_new (s : Store) (m : PPMsg) (hn : s.getPP m.c.header.height m.c.header.view = none) :
    (s.storePP m).getPP m.c.header.height m.c.header.view = some m := by
  unfold Store.storePP
  rw [hn]
  unfold Store.getPP at hn ⊢
  simp [List.find?_append, hn]

theorem storePP_getPP_cases (s : Store) (m : PPMsg) (h v : Nat) (q : PPMsg) (hg : (s.storePP m).getPP h v = some q) :
    s.getPP h v = some q ∨ (q = m ∧ m.c.header.height = h ∧ m.c.header.view = v ∧ s.getPP h v = none) := by
  cases hs : s.getPP h v with
  | some p => left; rw [storePP_getPP_stable s m h v p hs] at hg; exact hg
  | none =>
    right
    obtain ⟨hm, hh, hv⟩ := getPP_spec hg
    rcases (storePP_firstWins s m).mem hm with hm | rfl
    · exact absurd ⟨hh, hv⟩ (getPP_eq_none.mp hs q hm)
    · exact ⟨rfl, hh, hv, rfl⟩

/-! ## an insert leaves the other three lists alone -/

@[simp] theorem storePP_prepares (s : Store) (m : PPMsg) : (s.storePP m).prepares = s.prepares := by
  unfold Store.storePP; split <;> rfl
@[simp] theorem storePP_commits (s : Store) (m : PPMsg) : (s.storePP m).commits = s.commits := by
  unfold Store.storePP; split <;> rfl
@[simp] theorem storePP_vcs (s : Store) (m : PPMsg) : (s.storePP m).vcs = s.vcs := by
  unfold Store.storePP; split <;> rfl
@[simp] theorem storePrepare_pps (s : Store) (m : PMsg) : (s.storePrepare m).pps = s.pps := by
  unfold Store.storePrepare; split <;> rfl
@[simp] theorem storePrepare_commits (s : Store) (m : PMsg) : (s.storePrepare m).commits = s.commits := by
  unfold Store.storePrepare; split <;> rfl
@[simp] theorem storePrepare_vcs (s : Store) (m : PMsg) : (s.storePrepare m).vcs = s.vcs := by
  unfold Store.storePrepare; split <;> rfl
@[simp] theorem storeCommit_pps (s : Store) (m : CMsg) : (s.storeCommit m).pps = s.pps := by
  unfold Store.storeCommit; split <;> rfl
@[simp] theorem storeCommit_prepares (s : Store) (m : CMsg) : (s.storeCommit m).prepares = s.prepares := by
  unfold Store.storeCommit; split <;> rfl
@[simp] theorem storeCommit_vcs (s : Store) (m : CMsg) : (s.storeCommit m).vcs = s.vcs := by
  unfold Store.storeCommit; split <;> rfl
@[simp] theorem storeVC_pps (s : Store) (m : VCMsg) : (s.storeVC m).pps = s.pps := by
  unfold Store.storeVC; split <;> rfl
@[simp] theorem storeVC_prepares (s : Store) (m : VCMsg) : (s.storeVC m).prepares = s.prepares := by
  unfold Store.storeVC; split <;> rfl
@[simp] theorem storeVC_commits (s : Store) (m : VCMsg) : (s.storeVC m).commits = s.commits := by
  unfold Store.storeVC; split <;> rfl

theorem mem_storePP {s : Store} {m x : PPMsg} (h : x ∈ (s.storePP m).pps) : x ∈ s.pps ∨ x = m := (storePP_firstWins s m).mem h
theorem mem_storePrepare {s : Store} {m x : PMsg} (h : x ∈ (s.storePrepare m).prepares) : x ∈ s.prepares ∨ x = m :=
  (storePrepare_firstWins s m).mem h
theorem mem_storeCommit {s : Store} {m x : CMsg} (h : x ∈ (s.storeCommit m).commits) : x ∈ s.commits ∨ x = m :=
  (storeCommit_firstWins s m).mem h
theorem mem_storeVC {s : Store} {m x : VCMsg} (h : x ∈ (s.storeVC m).vcs) : x ∈ s.vcs ∨ x = m := (storeVC_firstWins s m).mem h
theorem storePrepare_prefix (s : Store) (m : PMsg) : s.prepares <+: (s.storePrepare m).prepares := (storePrepare_firstWins s m).pfx

/-! ## inserts as data -/

inductive StoreOp where
  | pp (m : PPMsg)
  | prepare (m : PMsg)
  | commit (m : CMsg)
  | vc (m : VCMsg)
deriving Repr

def Store.apply (s : Store) : StoreOp → Store
  | .pp m => s.storePP m
  | .prepare m => s.storePrepare m
  | .commit m => s.storeCommit m
  | .vc m => s.storeVC m

theorem mem_apply_pps {s : Store} {op : StoreOp} {x : PPMsg} (h : x ∈ (s.apply op).pps) : x ∈ s.pps ∨ op = .pp x := by
  cases op with
  | pp m => exact (mem_storePP h).imp id (fun e => congrArg _ e.symm)
  | _ => left; simpa [Store.apply] using h

theorem mem_apply_prepares {s : Store} {op : StoreOp} {x : PMsg} (h : x ∈ (s.apply op).prepares) :
    x ∈ s.prepares ∨ op = .prepare x := by
  cases op with
  | prepare m => exact (mem_storePrepare h).imp id (fun e => congrArg _ e.symm)
  | _ => left; simpa [Store.apply] using h

theorem mem_apply_commits {s : Store} {op : StoreOp} {x : CMsg} (h : x ∈ (s.apply op).commits) :
    x ∈ s.commits ∨ op = .commit x := by
  cases op with
  | commit m => exact (mem_storeCommit h).imp id (fun e => congrArg _ e.symm)
  | _ => left; simpa [Store.apply] using h

theorem mem_apply_vcs {s : Store} {op : StoreOp} {x : VCMsg} (h : x ∈ (s.apply op).vcs) : x ∈ s.vcs ∨ op = .vc x := by
  cases op with
  | vc m => exact (mem_storeVC h).imp id (fun e => congrArg _ e.symm)
  | _ => left; simpa [Store.apply] using h

theorem apply_prepares_keys (s : Store) (op : StoreOp) (h : (s.prepares.map C11.pkey).Nodup) :
    ((s.apply op).prepares.map C11.pkey).Nodup := by
  cases op with
  | prepare m => exact (storePrepare_firstWins s m).nodup h
  | _ => simpa [Store.apply] using h

theorem apply_commits_keys (s : Store) (op : StoreOp) (h : (s.commits.map C03.ckey).Nodup) :
    ((s.apply op).commits.map C03.ckey).Nodup := by
  cases op with
  | commit m => exact (storeCommit_firstWins s m).nodup h
  | _ => simpa [Store.apply] using h

theorem apply_vcs_keys (s : Store) (op : StoreOp) (h : (s.vcs.map C11.vkey).Nodup) :
    ((s.apply op).vcs.map C11.vkey).Nodup := by
  cases op with
  | vc m => exact (storeVC_firstWins s m).nodup h
  | _ => simpa [Store.apply] using h

theorem getPrepares_storePrepare_ne (s : Store) (m : PMsg) :
    (s.storePrepare m).getPrepares m.header.height m.header.view m.header.hash ≠ [] := by
  have hm := mem_getPrepares_ids.mpr (storePrepare_firstWins s m).has_key
  intro h
  rw [h] at hm
  cases hm

end Term

/-! ## the log only grows -/

namespace Net
open LeanHelix.Term

structure StoreLe (a b : Store) : Prop where
  pps : a.pps <+: b.pps
  prepares : a.prepares <+: b.prepares
  commits : a.commits <+: b.commits
  vcs : a.vcs <+: b.vcs

theorem StoreLe.refl (a : Store) : StoreLe a a :=
  ⟨List.prefix_refl _, List.prefix_refl _, List.prefix_refl _, List.prefix_refl _⟩

theorem StoreLe.trans {a b c : Store} (h1 : StoreLe a b) (h2 : StoreLe b c) : StoreLe a c :=
  ⟨h1.pps.trans h2.pps, h1.prepares.trans h2.prepares, h1.commits.trans h2.commits, h1.vcs.trans h2.vcs⟩

theorem StoreLe.of_eq {a b : Store} (h : b = a) : StoreLe a b := by rw [h]; exact StoreLe.refl a

theorem storeLe_apply (s : Store) (op : StoreOp) : StoreLe s (s.apply op) := by
  cases op with
  | pp m => exact ⟨(storePP_firstWins s m).pfx, by simp [Store.apply], by simp [Store.apply], by simp [Store.apply]⟩
  | prepare m => exact ⟨by simp [Store.apply], (storePrepare_firstWins s m).pfx, by simp [Store.apply], by simp [Store.apply]⟩
  | commit m => exact ⟨by simp [Store.apply], by simp [Store.apply], (storeCommit_firstWins s m).pfx, by simp [Store.apply]⟩
  | vc m => exact ⟨by simp [Store.apply], by simp [Store.apply], by simp [Store.apply], (storeVC_firstWins s m).pfx⟩

end Net

namespace Term
open LeanHelix.Msg

theorem apply_getPP_stable (s : Store) (op : StoreOp) (h v : Nat) (p : PPMsg) (hp : s.getPP h v = some p) :
    (s.apply op).getPP h v = some p := getPP_of_prefix (Net.storeLe_apply s op).pps hp

end Term
/-! ## the log of a node evolves by inserts

`Evolves P a b`: `b` has the configuration of `a` and its log is obtained from `a`'s by a sequence of inserts, each of
which satisfies `P` on the node at the moment of the insert. -/

namespace Term
open LeanHelix.Msg

inductive Evolves (P : Node → StoreOp → Prop) : Node → Node → Prop where
  | refl (n : Node) : Evolves P n n
  | other {n n' : Node} (h : n'.cfg = n.cfg ∧ n'.store = n.store) : Evolves P n n'
  | insert {n : Node} (op : StoreOp) (hP : P n op) : Evolves P n { n with store := n.store.apply op }
  | trans {a b c : Node} : Evolves P a b → Evolves P b c → Evolves P a c

theorem Evolves.cfg {P} {a b : Node} (h : Evolves P a b) : b.cfg = a.cfg := by
  induction h with
  | refl => rfl
  | other h => exact h.1
  | insert => rfl
  | trans _ _ ih1 ih2 => rw [ih2, ih1]

theorem Evolves.mono {P Q : Node → StoreOp → Prop} (hPQ : ∀ n op, P n op → Q n op) {a b : Node}
    (h : Evolves P a b) : Evolves Q a b := by
  induction h with
  | refl => exact .refl _
  | other h => exact .other h
  | insert op hP => exact .insert op (hPQ _ _ hP)
  | trans _ _ ih1 ih2 => exact .trans ih1 ih2

theorem Evolves.preserves {P} (I : Node → Prop)
    (hother : ∀ n n' : Node, n'.cfg = n.cfg ∧ n'.store = n.store → I n → I n')
    (hins : ∀ n op, I n → P n op → I { n with store := n.store.apply op })
    {a b : Node} (h : Evolves P a b) (ha : I a) : I b := by
  induction h with
  | refl => exact ha
  | other h => exact hother _ _ h ha
  | insert op hP => exact hins _ op ha hP
  | trans _ _ ih1 ih2 => exact ih2 (ih1 ha)

theorem Evolves.log {P} (I : Cfg → Store → Prop)
    (hins : ∀ n op, P n op → I n.cfg n.store → I n.cfg (n.store.apply op))
    {a b : Node} (h : Evolves P a b) (ha : I a.cfg a.store) : I b.cfg b.store :=
  Evolves.preserves (fun n => I n.cfg n.store) (fun _ _ hh hi => by rw [hh.1, hh.2]; exact hi)
    (fun n op hi hp => hins n op hp hi) h ha

/-! Every logged message satisfies what its justification implied when it was inserted. The consequence `A` may look at
the configuration only: the rest of the node has moved on since the insert. -/

theorem Evolves.pps {P} {A : Cfg → PPMsg → Prop} (hPA : ∀ n m, P n (.pp m) → A n.cfg m) {a b : Node}
    (h : Evolves P a b) (ha : ∀ m ∈ a.store.pps, A a.cfg m) : ∀ m ∈ b.store.pps, A b.cfg m :=
  h.log (fun c s => ∀ m ∈ s.pps, A c m)
    (fun n _ hp hi x hx => (mem_apply_pps hx).elim (hi x) (fun e => hPA n x (e ▸ hp))) ha

theorem Evolves.prepares {P} {A : Cfg → PMsg → Prop} (hPA : ∀ n m, P n (.prepare m) → A n.cfg m) {a b : Node}
    (h : Evolves P a b) (ha : ∀ m ∈ a.store.prepares, A a.cfg m) : ∀ m ∈ b.store.prepares, A b.cfg m :=
  h.log (fun c s => ∀ m ∈ s.prepares, A c m)
    (fun n _ hp hi x hx => (mem_apply_prepares hx).elim (hi x) (fun e => hPA n x (e ▸ hp))) ha

theorem Evolves.commits {P} {A : Cfg → CMsg → Prop} (hPA : ∀ n m, P n (.commit m) → A n.cfg m) {a b : Node}
    (h : Evolves P a b) (ha : ∀ m ∈ a.store.commits, A a.cfg m) : ∀ m ∈ b.store.commits, A b.cfg m :=
  h.log (fun c s => ∀ m ∈ s.commits, A c m)
    (fun n _ hp hi x hx => (mem_apply_commits hx).elim (hi x) (fun e => hPA n x (e ▸ hp))) ha

theorem Evolves.vcs {P} {A : Cfg → VCMsg → Prop} (hPA : ∀ n m, P n (.vc m) → A n.cfg m) {a b : Node}
    (h : Evolves P a b) (ha : ∀ m ∈ a.store.vcs, A a.cfg m) : ∀ m ∈ b.store.vcs, A b.cfg m :=
  h.log (fun c s => ∀ m ∈ s.vcs, A c m)
    (fun n _ hp hi x hx => (mem_apply_vcs hx).elim (hi x) (fun e => hPA n x (e ▸ hp))) ha

theorem Evolves.prepares_keys {P} {a b : Node} (h : Evolves P a b) (ha : (a.store.prepares.map C11.pkey).Nodup) :
    (b.store.prepares.map C11.pkey).Nodup :=
  h.log (fun _ s => (s.prepares.map C11.pkey).Nodup) (fun n op _ => apply_prepares_keys n.store op) ha

theorem Evolves.commits_keys {P} {a b : Node} (h : Evolves P a b) (ha : (a.store.commits.map C03.ckey).Nodup) :
    (b.store.commits.map C03.ckey).Nodup :=
  h.log (fun _ s => (s.commits.map C03.ckey).Nodup) (fun n op _ => apply_commits_keys n.store op) ha

theorem Evolves.vcs_keys {P} {a b : Node} (h : Evolves P a b) (ha : (a.store.vcs.map C11.vkey).Nodup) :
    (b.store.vcs.map C11.vkey).Nodup :=
  h.log (fun _ s => (s.vcs.map C11.vkey).Nodup) (fun n op _ => apply_vcs_keys n.store op) ha

theorem Evolves.storeLe {P} {a b : Node} (h : Evolves P a b) : Net.StoreLe a.store b.store :=
  h.log (fun _ s => Net.StoreLe a.store s) (fun n op _ hi => hi.trans (Net.storeLe_apply n.store op)) (Net.StoreLe.refl _)

theorem Evolves.getPP_stable {P} {a b : Node} (hev : Evolves P a b) (h v : Nat) (p : PPMsg)
    (hp : a.store.getPP h v = some p) : b.store.getPP h v = some p := getPP_of_prefix hev.storeLe.pps hp

end Term
end LeanHelix
