import LeanHelix.Lemmas.Weights
import LeanHelix.Lemmas.List
/-!
# Abstract, history-based specification of one height, and agreement from the local rules

`Ev` are the statements *correct* nodes make (signed messages they send, decisions they take).
A history is a list of events, newest first.  `Justified H e` is what a correct node must check
before adding `e` after history `H` — the per-node rules the properties C07–C10 state, plus the
stand-alone proposal the code accepts in addition (known finding D5).  `agreement` derives C01 for every
committee, weight vector, Byzantine set of weight ≤ f and every history built by those rules — no bound on
views, nodes or steps.  That the statements of the correct members of the network model form such a
history is `Net.reach_inv`.
-/
namespace LeanHelix.Spec
open LeanHelix

structure Setting where
  ms : List Member
  honest : Pred
  hW : 1 ≤ W ms
  hbyz : wt ms (fun i => !honest i) ≤ F ms

variable (S : Setting)

theorem split_honest (p : Pred) : wt S.ms p ≤ wt S.ms (fun i => p i && S.honest i) + F S.ms := by
  have h1 := wt_incl_excl S.ms (fun i => p i && S.honest i) (fun i => p i && !S.honest i)
  have h2 : wt S.ms p ≤ wt S.ms (fun i => (p i && S.honest i) || (p i && !S.honest i)) := by
    apply wt_mono; intro m _ hp; cases S.honest m.id <;> simp [hp]
  have h3 : wt S.ms (fun i => p i && !S.honest i) ≤ wt S.ms (fun i => !S.honest i) := by
    apply wt_mono; intro m _ hp; simp at hp ⊢; exact hp.2
  have h4 := S.hbyz
  omega

/-- more than `f` weight contains a correct member -/
theorem honest_of_gt_F {p : Pred} (hp : F S.ms < wt S.ms p) : ∃ m ∈ S.ms, p m.id = true ∧ S.honest m.id = true := by
  have sp := split_honest S p
  obtain ⟨m, hm, h⟩ := wt_pos_exists S.ms (fun i => p i && S.honest i) (by omega)
  simp at h; exact ⟨m, hm, h.1, h.2⟩

theorem QH (p : Pred) (hp : Q S.ms ≤ wt S.ms p) : ∃ m ∈ S.ms, p m.id = true ∧ S.honest m.id = true :=
  honest_of_gt_F S (Nat.lt_of_lt_of_le (F_lt_Q S.hW) hp)

/-- two quorums share a correct member -/
theorem QI1 (p q : Pred) (hp : Q S.ms ≤ wt S.ms p) (hq : Q S.ms ≤ wt S.ms q) :
    ∃ m ∈ S.ms, p m.id = true ∧ q m.id = true ∧ S.honest m.id = true := by
  obtain ⟨m, hm, h, hh⟩ := honest_of_gt_F S (quorum_inter S.hW hp hq)
  simp at h; exact ⟨m, hm, h.1, h.2, hh⟩

/-! ## events and local rules -/

inductive Ev where
  | acc  (n : Nat) (v : Nat) (h : Nat)                  -- correct n accepted proposal (v,h): sent PREPARE, or proposed it as leader
  | com  (n : Nat) (v : Nat) (h : Nat)                  -- correct n sent COMMIT(v,h) on becoming prepared
  | lcom (n : Nat) (v : Nat) (h : Nat)                  -- correct n sent COMMIT(v,h) on seeing a commit quorum
  | vote (n : Nat) (v : Nat) (pf : Option (Nat × Nat))  -- correct n sent VIEW_CHANGE for v carrying proof pf = (view, hash)
  | dec  (n : Nat) (h : Nat)                            -- correct n delivered h
deriving DecidableEq

open Ev

/-- a prepared certificate for (v,h) is visible in `H`.  Here and below a quorum is any predicate of
weight Q of which only the correct members must have made their statement: Byzantine members are not
constrained and count by their weight alone -/
def validCert (H : List Ev) (v h : Nat) : Prop :=
  ∃ P : Pred, Q S.ms ≤ wt S.ms P ∧ ∀ m ∈ S.ms, P m.id = true → S.honest m.id = true → acc m.id v h ∈ H

def commitQuorum (H : List Ev) (v h : Nat) : Prop :=
  ∃ C : Pred, Q S.ms ≤ wt S.ms C ∧ ∀ m ∈ S.ms, C m.id = true → S.honest m.id = true →
    (com m.id v h ∈ H ∨ lcom m.id v h ∈ H)

/-- a valid NEW_VIEW certificate for (v',h') is visible in `H` -/
def newViewJust (H : List Ev) (v' h' : Nat) : Prop :=
  ∃ (V : Pred) (pf : Nat → Option (Nat × Nat)),
    Q S.ms ≤ wt S.ms V ∧
    (∀ m ∈ S.ms, V m.id = true → S.honest m.id = true → vote m.id v' (pf m.id) ∈ H) ∧
    (∀ m ∈ S.ms, V m.id = true → ∀ pv hp, pf m.id = some (pv, hp) → pv < v' ∧ validCert S H pv hp) ∧
    ((∀ m ∈ S.ms, V m.id = true → pf m.id = none) ∨
     (∃ m0 ∈ S.ms, ∃ pvmax, V m0.id = true ∧ pf m0.id = some (pvmax, h') ∧
        ∀ m ∈ S.ms, V m.id = true → ∀ pv hp, pf m.id = some (pv, hp) → pv ≤ pvmax))

def Justified (H : List Ev) : Ev → Prop
  | acc n v h  => (∀ h', acc n v h' ∈ H → h' = h) ∧ (∀ v' pf, vote n v' pf ∈ H → v' ≤ v)
      ∧ (0 < v → newViewJust S H v h
          -- what the code allows in addition (known finding D5; a prepared node refuses conflicting
          -- bare proposals): a stand-alone PREPREPARE of the node's current view, provided the node
          -- holds no prepared certificate for another hash (`lockConflict` consults only the node's
          -- *latest* prepared view; the node's current view is never below a view it prepared in,
          -- and it accepts once per view)
          ∨ (∀ v0 h0, com n v0 h0 ∈ H → v0 < v ∧ ((∀ v1 h1, com n v1 h1 ∈ H → v1 ≤ v0) → h0 = h)))
  | com n v h  => acc n v h ∈ H ∧ validCert S H v h ∧ (∀ v' pf, vote n v' pf ∈ H → v' ≤ v)
      ∧ (∀ v' h', acc n v' h' ∈ H → v' ≤ v)      -- a node becomes prepared only in its current view
  | lcom _ v h => commitQuorum S H v h
  | vote n v' pf => ∀ v h, com n v h ∈ H → v < v' → ∃ pv hp, pf = some (pv, hp) ∧ v ≤ pv
  | dec _ h    => ∃ v, commitQuorum S H v h

inductive Valid : List Ev → Prop
  | nil : Valid []
  | cons {H : List Ev} {e : Ev} : Valid H → Justified S H e → Valid (e :: H)

/-! ## monotonicity -/

theorem validCert_mono {H H' : List Ev} (hsub : ∀ e ∈ H, e ∈ H') {v h : Nat} (hc : validCert S H v h) :
    validCert S H' v h := by
  obtain ⟨P, hq, hP⟩ := hc
  exact ⟨P, hq, fun m hm hp hh => hsub _ (hP m hm hp hh)⟩

theorem commitQuorum_mono {H H' : List Ev} (hsub : ∀ e ∈ H, e ∈ H') {v h : Nat} (hc : commitQuorum S H v h) :
    commitQuorum S H' v h := by
  obtain ⟨C, hq, hC⟩ := hc
  refine ⟨C, hq, fun m hm hc hh => ?_⟩
  rcases hC m hm hc hh with a | a
  · exact Or.inl (hsub _ a)
  · exact Or.inr (hsub _ a)

theorem newViewJust_mono {H H' : List Ev} (hsub : ∀ e ∈ H, e ∈ H') {v h : Nat}
    (hj : newViewJust S H v h) : newViewJust S H' v h := by
  obtain ⟨V, pf, hq, hvotes, hproofs, hsel⟩ := hj
  refine ⟨V, pf, hq, fun m hm hv hh => hsub _ (hvotes m hm hv hh), ?_, hsel⟩
  intro m hm hv pv hp hpf
  obtain ⟨a, b⟩ := hproofs m hm hv pv hp hpf
  exact ⟨a, validCert_mono S hsub b⟩

/-! ## the history before an event

Histories grow at the head, so the history before an event `e` of `H` is the `H0` with `e :: H0 <:+ H`. -/

theorem justified_of_suffix {H H0 : List Ev} {e : Ev} (hv : Valid S H) (hs : e :: H0 <:+ H) :
    Valid S H0 ∧ Justified S H0 e := by
  obtain ⟨L, rfl⟩ := hs
  induction L with
  | nil => cases hv with | cons hv0 hj => exact ⟨hv0, hj⟩
  | cons x L ih => cases hv with | cons hv' _ => exact ih hv'

theorem justified_of_mem {H : List Ev} (hv : Valid S H) {e : Ev} (he : e ∈ H) :
    ∃ H0, Valid S H0 ∧ Justified S H0 e ∧ e :: H0 <:+ H := by
  obtain ⟨L, H0, rfl⟩ := List.append_of_mem he
  have hs := List.suffix_append L (e :: H0)
  exact ⟨H0, (justified_of_suffix S hv hs).1, (justified_of_suffix S hv hs).2, hs⟩

theorem order {H : List Ev} (hv : Valid S H) {a b : Ev} (ha : a ∈ H) (hb : b ∈ H) :
    a = b ∨ (∃ H1, Justified S H1 a ∧ b ∈ H1) ∨ (∃ H1, Justified S H1 b ∧ a ∈ H1) := by
  obtain ⟨Hb, _, jb, sb⟩ := justified_of_mem S hv hb
  rcases before_or_after sb ha with e | h | ⟨Ha, sa, h⟩
  · exact Or.inl e
  · exact Or.inr (Or.inr ⟨Hb, jb, h⟩)
  · exact Or.inr (Or.inl ⟨Ha, (justified_of_suffix S hv sa).2, h⟩)

/-! ## what an event in a valid history tells about that history -/

theorem com_cert {H : List Ev} (hv : Valid S H) {n v h : Nat} (hc : com n v h ∈ H) : validCert S H v h := by
  obtain ⟨H0, _, j0, s0⟩ := justified_of_mem S hv hc
  exact validCert_mono S (fun _ => mem_of_before s0) j0.2.1

theorem lcom_commitQuorum {H : List Ev} (hv : Valid S H) {n v h : Nat} (hc : lcom n v h ∈ H) :
    commitQuorum S H v h := by
  obtain ⟨H0, _, j0, s0⟩ := justified_of_mem S hv hc
  exact commitQuorum_mono S (fun _ => mem_of_before s0) j0

theorem dec_commitQuorum {H : List Ev} (hv : Valid S H) {n h : Nat} (hd : dec n h ∈ H) :
    ∃ v, commitQuorum S H v h := by
  obtain ⟨H0, _, ⟨v, q⟩, s0⟩ := justified_of_mem S hv hd
  exact ⟨v, commitQuorum_mono S (fun _ => mem_of_before s0) q⟩

/-! ## the lemma chain -/

theorem acc_unique {H : List Ev} (hv : Valid S H) {n v h h' : Nat}
    (h1 : acc n v h ∈ H) (h2 : acc n v h' ∈ H) : h = h' := by
  rcases order S hv h1 h2 with e | ⟨H1, j1, m1⟩ | ⟨H1, j1, m1⟩
  · injection e
  · exact (j1.1 h' m1).symm
  · exact (j1.1 h m1)

theorem cert_unique {H : List Ev} (hv : Valid S H) {v h h' : Nat}
    (c1 : validCert S H v h) (c2 : validCert S H v h') : h = h' := by
  obtain ⟨P, hp, hP⟩ := c1
  obtain ⟨P', hp', hP'⟩ := c2
  obtain ⟨m, hm, a, b, hh⟩ := QI1 S P P' hp hp'
  exact acc_unique S hv (hP m hm a hh) (hP' m hm b hh)

theorem lock_carried {H : List Ev} (hv : Valid S H) {n v h v' : Nat} {pf : Option (Nat × Nat)}
    (hc : com n v h ∈ H) (hvote : vote n v' pf ∈ H) (hlt : v < v') :
    ∃ pv hp, pf = some (pv, hp) ∧ v ≤ pv := by
  rcases order S hv hc hvote with e | ⟨H1, j1, m1⟩ | ⟨H1, j1, m1⟩
  · cases e
  · -- com justified after the vote: all earlier votes are for views ≤ v
    exact absurd hlt (Nat.not_lt.mpr (j1.2.2.1 v' pf m1))
  · exact j1 v h m1 hlt

theorem commitQuorum_prepared {H : List Ev} (hv : Valid S H) {v h : Nat} (hcq : commitQuorum S H v h) :
    ∃ C : Pred, Q S.ms ≤ wt S.ms C ∧ ∀ m ∈ S.ms, C m.id = true → S.honest m.id = true → com m.id v h ∈ H := by
  induction hv with
  | nil =>
    obtain ⟨C, hq, hC⟩ := hcq
    exact ⟨C, hq, fun m hm hc hh => by rcases hC m hm hc hh with a | a <;> cases a⟩
  | @cons H e hv' hj ih =>
    obtain ⟨C, hq, hC⟩ := hcq
    by_cases hl : ∃ m ∈ S.ms, C m.id = true ∧ S.honest m.id = true ∧ lcom m.id v h ∈ e :: H
    · -- a correct member of C took the late path: a commit quorum was visible before `e`, and we descend
      obtain ⟨m, _, _, _, hlc⟩ := hl
      have hq0 : commitQuorum S H v h := by
        rcases List.mem_cons.mp hlc with rfl | hin
        · exact hj
        · exact lcom_commitQuorum S hv' hin
      obtain ⟨C', hq', hC'⟩ := ih hq0
      exact ⟨C', hq', fun m hm hc hh => List.mem_cons_of_mem _ (hC' m hm hc hh)⟩
    · refine ⟨C, hq, fun m hm hc hh => ?_⟩
      rcases hC m hm hc hh with a | a
      · exact a
      · exact absurd ⟨m, hm, hc, hh, a⟩ hl

theorem commitQuorum_cert {H : List Ev} (hv : Valid S H) {v h : Nat} (hcq : commitQuorum S H v h) :
    validCert S H v h := by
  obtain ⟨C, hq, hC⟩ := commitQuorum_prepared S hv hcq
  obtain ⟨m, hm, hc, hh⟩ := QH S C hq
  exact com_cert S hv (hC m hm hc hh)

theorem max_com (H : List Ev) (n : Nat) (hex : ∃ v h, com n v h ∈ H) :
    ∃ v h, com n v h ∈ H ∧ ∀ v1 h1, com n v1 h1 ∈ H → v1 ≤ v := by
  induction H with
  | nil => obtain ⟨_, _, h⟩ := hex; cases h
  | cons e H ih =>
    by_cases hrest : ∃ v h, com n v h ∈ H
    · obtain ⟨v, h, hin, hmax⟩ := ih hrest
      by_cases hnew : ∃ v2 h2, e = com n v2 h2 ∧ v < v2
      · obtain ⟨v2, h2, rfl, hlt⟩ := hnew
        refine ⟨v2, h2, List.mem_cons_self, fun v1 h1 h => ?_⟩
        rcases List.mem_cons.mp h with e | h
        · injection e with _ e2 _; exact Nat.le_of_eq e2
        · exact Nat.le_trans (hmax v1 h1 h) (Nat.le_of_lt hlt)
      · refine ⟨v, h, List.mem_cons_of_mem _ hin, fun v1 h1 h => ?_⟩
        rcases List.mem_cons.mp h with e' | h
        · by_cases hle : v1 ≤ v
          · exact hle
          · exact absurd ⟨v1, h1, e'.symm, Nat.lt_of_not_le hle⟩ hnew
        · exact hmax v1 h1 h
    · obtain ⟨v, h, hin⟩ := hex
      rcases List.mem_cons.mp hin with rfl | hin
      · refine ⟨v, h, List.mem_cons_self, fun v1 h1 h' => ?_⟩
        rcases List.mem_cons.mp h' with e | h'
        · injection e with _ e2 _; exact Nat.le_of_eq e2
        · exact absurd ⟨v1, h1, h'⟩ hrest
      · exact absurd ⟨v, h, hin⟩ hrest

/-- the step of the lock: a certificate for a view above `v` rests on one for the same hash in a view of
`[v, v')` — the one the NEW_VIEW re-proposes, or the acceptor's own latest prepared certificate -/
theorem cert_descends {H : List Ev} (hv : Valid S H) {v h : Nat} {C : Pred} (hq : Q S.ms ≤ wt S.ms C)
    (hC : ∀ m ∈ S.ms, C m.id = true → S.honest m.id = true → com m.id v h ∈ H)
    {v' h' : Nat} (hlt : v < v') (hc' : validCert S H v' h') :
    ∃ pv, v ≤ pv ∧ pv < v' ∧ validCert S H pv h' := by
  -- the certificate's quorum and the prepared committers of (v,h) share a correct member: it is
  -- prepared on (v,h) and accepted (v',h')
  obtain ⟨P, hpq, hP⟩ := hc'
  obtain ⟨m1, hm1, hp1, hC1, hh1⟩ := QI1 S P C hpq hq
  obtain ⟨H0, _, j0, s0⟩ := justified_of_mem S hv (hP m1 hm1 hp1 hh1)
  rcases j0.2.2 (Nat.zero_lt_of_lt hlt) with ⟨V, pf, hVq, hVvote, hVpf, hVmax⟩ | hbare
  · -- the vote quorum meets the prepared committers, whose vote carries a proof from `v` or later
    obtain ⟨m2, hm2, hV2, hC2, hh2⟩ := QI1 S V C hVq hq
    obtain ⟨pv, hp, hpf, hle⟩ :=
      lock_carried S hv (hC m2 hm2 hC2 hh2) (mem_of_before s0 (hVvote m2 hm2 hV2 hh2)) hlt
    -- so the NEW_VIEW re-proposes the highest certified hash
    rcases hVmax with hnone | ⟨m0, hm0, pvmax, hV0, hpf0, hmax⟩
    · rw [hnone m2 hm2 hV2] at hpf; cases hpf
    · obtain ⟨hlt0, hcert0⟩ := hVpf m0 hm0 hV0 pvmax h' hpf0
      exact ⟨pvmax, Nat.le_trans hle (hmax m2 hm2 hV2 pv hp hpf), hlt0,
        validCert_mono S (fun _ => mem_of_before s0) hcert0⟩
  · -- stand-alone proposal: the member was already prepared on (v,h) (a node cannot become prepared
    -- in v after accepting a proposal of the later view v'), so the proposal is for the hash of its
    -- latest COMMIT-on-prepared before this acceptance
    rcases before_or_after s0 (hC m1 hm1 hC1 hh1) with e | hin | ⟨H1, s1, m1in⟩
    · cases e
    · obtain ⟨vm, hm, hmin, hmax⟩ := max_com H0 m1.id ⟨v, h, hin⟩
      obtain ⟨hlt', hhash⟩ := hbare vm hm hmin
      exact ⟨vm, hmax v h hin, hlt', hhash hmax ▸ com_cert S hv (mem_of_before s0 hmin)⟩
    · exact absurd hlt (Nat.not_lt.mpr ((justified_of_suffix S hv s1).2.2.2.2 v' h' m1in))

/-- the lock, for every later view: by induction on the view of the certificate -/
theorem locked_lt {H : List Ev} (hv : Valid S H) {v h : Nat} (hcq : commitQuorum S H v h) :
    ∀ v' h', v < v' → validCert S H v' h' → h' = h := by
  obtain ⟨C, hq, hC⟩ := commitQuorum_prepared S hv hcq
  intro v'
  induction v' using Nat.strongRecOn with
  | _ v' ih =>
    intro h' hlt hc'
    obtain ⟨pv, hle, hlt', hc0⟩ := cert_descends S hv hq hC hlt hc'
    rcases Nat.eq_or_lt_of_le hle with rfl | hl
    · exact cert_unique S hv hc0 (commitQuorum_cert S hv hcq)
    · exact ih pv hlt' h' hl hc0

/-- **the lock**: once a commit quorum for (v,h) is visible, every certificate of a later view is for h -/
theorem locked {H : List Ev} (hv : Valid S H) {v h : Nat} (hcq : commitQuorum S H v h) :
    ∀ (d : Nat) (v' h' : Nat), v' = v + 1 + d → validCert S H v' h' → h' = h :=
  fun _ v' h' e => locked_lt S hv hcq v' h' (by omega)

/-- **Agreement (C01)**: in every history built by the local rules, for every committee and every
Byzantine set of weight at most f, all correct nodes that decide, decide the same value. -/
theorem agreement {H : List Ev} (hv : Valid S H) {a b ha hb : Nat}
    (da : dec a ha ∈ H) (db : dec b hb ∈ H) : ha = hb := by
  obtain ⟨va, qa⟩ := dec_commitQuorum S hv da
  obtain ⟨vb, qb⟩ := dec_commitQuorum S hv db
  have ca := commitQuorum_cert S hv qa
  have cb := commitQuorum_cert S hv qb
  rcases Nat.lt_trichotomy va vb with hlt | heq | hgt
  · exact (locked_lt S hv qa vb hb hlt cb).symm
  · subst heq; exact cert_unique S hv ca cb
  · exact locked_lt S hv qb va ha hgt ca

/-- external validity in the abstract: a certified (v,h) was accepted by a correct member -/
theorem certified_was_accepted_by_correct {H : List Ev} {v h : Nat} (hc : validCert S H v h) :
    ∃ m ∈ S.ms, S.honest m.id = true ∧ acc m.id v h ∈ H := by
  obtain ⟨P, hq, hP⟩ := hc
  obtain ⟨m, hm, hp, hh⟩ := QH S P hq
  exact ⟨m, hm, hh, hP m hm hp hh⟩

theorem decided_was_accepted_by_correct {H : List Ev} (hv : Valid S H) {n h : Nat} (hd : dec n h ∈ H) :
    ∃ v, ∃ m ∈ S.ms, S.honest m.id = true ∧ acc m.id v h ∈ H := by
  obtain ⟨v, q⟩ := dec_commitQuorum S hv hd
  exact ⟨v, certified_was_accepted_by_correct S (commitQuorum_cert S hv q)⟩

end LeanHelix.Spec
